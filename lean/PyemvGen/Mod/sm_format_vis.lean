import PyemvGen.Mod.Common
import PyemvGen.Mod.tools_xor
namespace Pyemv.ModRefines
open Pyemv.Gen

theorem sm_format_vis (mk : Bytes) (p : StrOrBytes) (c : Option StrOrBytes) :
    Gen.sm.format_vis_pin_block mk p c = formatVisPinBlock mk p c := by
  unfold Gen.sm.format_vis_pin_block formatVisPinBlock
  simp only [tools_xor, rep_flatten, zeros, throw_eq, pure_eq_ok, ok_bind, error_bind, bind_ok, except_match_eta]
  cases c <;> simp only [bind_assoc, ok_bind]
  same_guards

end Pyemv.ModRefines
