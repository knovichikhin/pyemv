import PyemvGen.Mod.Common
import PyemvGen.Mod.kd_tree_derive
namespace Pyemv.ModRefines
open Pyemv.Gen

theorem kd_tree_walk (b : Nat) (mk iv : Bytes) : ∀ (h j : Nat),
    Gen.kd.derive_emv2000_tree_sk.walk b mk iv j h = treeWalk b mk iv j h := by
  intro h
  induction h with
  | zero => intro j; rfl
  | succ h ih =>
    intro j
    unfold Gen.kd.derive_emv2000_tree_sk.walk treeWalk
    simp only [ih, kd_tree_derive, pyDiv_bind, throw_eq, pure_eq_ok, ok_bind, error_bind, bind_ok]
    same_guards

end Pyemv.ModRefines
