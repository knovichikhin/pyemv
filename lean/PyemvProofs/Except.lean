/-!
# The result monad `R = Except PyErr`: reading a Python-shaped body

A body is a chain of `if c then throw e` guards and `let x ← f …` calls.  `throw_bind` turns the guards into
nested `if … then .error e else …`, which `guard_guard` merges; `bind_eq_ok` reads a successful run backwards, call by call.
-/
namespace Pyemv
variable {ε α β : Type}

theorem ok_bind (a : α) (k : α → Except ε β) : (Except.ok a >>= k) = k a := rfl
theorem error_bind (e : ε) (k : α → Except ε β) : (Except.error e >>= k) = .error e := rfl
theorem pure_eq_ok (a : α) : (pure a : Except ε α) = .ok a := rfl
theorem bind_ok (x : Except ε α) : (x >>= fun a => Except.ok a) = x := by cases x <;> rfl
theorem ite_bind (c : Prop) [Decidable c] (x y : Except ε α) (k : α → Except ε β) :
    ((if c then x else y) >>= k) = if c then x >>= k else y >>= k := apply_ite (· >>= k) c x y

/-- a length guard `if n ≠ 16 then …` once the length is known to be right -/
theorem ite_ne_self {γ : Sort _} {δ : Type} (n : δ) [Decidable (n ≠ n)] (x y : γ) : (if n ≠ n then x else y) = y :=
  if_neg (fun h => h rfl)

theorem throw_eq (e : ε) : (throw e : Except ε α) = .error e := rfl

/-- `raise e`: the rest of the body is skipped -/
theorem throw_bind (e : ε) (k : α → Except ε β) : (throw e >>= k) = .error e := rfl

/-- two guards raising the same error are one guard: a chain of them is `if g₁ ∨ g₂ ∨ … then .error e else …` -/
theorem guard_guard {a b : Prop} [Decidable a] [Decidable b] (e : ε) (k : Except ε β) :
    (if a then .error e else if b then .error e else k) = if a ∨ b then .error e else k := by
  by_cases ha : a <;> by_cases hb : b <;> simp only [ha, hb, if_true, if_false, or_self, or_true, true_or]

/-- a body that returned `b` got some `a` from its first call and `b` from the rest -/
theorem bind_eq_ok {x : Except ε α} {k : α → Except ε β} {b : β} : (x >>= k) = .ok b ↔ ∃ a, x = .ok a ∧ k a = .ok b := by
  cases x with
  | error e => exact ⟨fun h => (nomatch h), fun ⟨_, h, _⟩ => (nomatch h)⟩
  | ok a => exact ⟨fun h => ⟨a, rfl, h⟩, fun ⟨_, h, hk⟩ => by cases h; exact hk⟩

/-- a guarded body that returned `b` passed the guard -/
theorem guard_eq_ok {c : Prop} [Decidable c] {e : ε} {k : Except ε β} {b : β} :
    (if c then .error e else k) = .ok b ↔ ¬c ∧ k = .ok b := by
  split <;> simp [*]

end Pyemv
