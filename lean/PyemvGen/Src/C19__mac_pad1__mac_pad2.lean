import PyemvGen.Mod.mac_pad1
import PyemvGen.Mod.mac_pad2
import PyemvProps.C19
/-! Generated by lean/mk_source.py (committed). C19 restated about the definitions translated from the
repository's source on this run (`Pyemv.Gen.*`), by the refinement theorem(s) mac_pad1, mac_pad2. -/
namespace Pyemv.C19.Source
open Spec

theorem pad_default_block_size (d : Bytes) :
    Gen.mac.pad_iso9797_1 d none = Gen.mac.pad_iso9797_1 d (some 8) ∧ Gen.mac.pad_iso9797_2 d none = Gen.mac.pad_iso9797_2 d (some 8) := by
  simp only [ModRefines.mac_pad1, ModRefines.mac_pad2]
  exact _root_.Pyemv.C19.pad_default_block_size d

end Pyemv.C19.Source
