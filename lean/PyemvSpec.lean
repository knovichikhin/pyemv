import PyemvSpec.Basic
import PyemvSpec.TlvGrammar
