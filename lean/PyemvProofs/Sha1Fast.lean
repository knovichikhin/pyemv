import PyemvModel.Sha1
/-!
A twin of `Sha1.processBlock` for the kernel.  The model keeps the message schedule in an `Array` that it fills
with `push` and reads by index; evaluated in the kernel each of these walks a list, and that, not the 32-bit
arithmetic, is most of the work of a block.  Here the schedule is a list with the newest word first, read by one
pattern match and then consumed from the front.  Padding, the words of a block and the loop over the blocks
remain the model's.
-/
namespace Sha1.Fast

/-- the next schedule word from the sixteen before it; newest first, so `w[t-3]`, `w[t-8]`, `w[t-14]`, `w[t-16]` stand
at positions 2, 7, 13, 15 -/
def next : List UInt32 → UInt32
  | _ :: _ :: w3 :: _ :: _ :: _ :: _ :: w8 :: _ :: _ :: _ :: _ :: _ :: w14 :: _ :: w16 :: _ =>
    rotl (w3 ^^^ w8 ^^^ w14 ^^^ w16) 1
  | _ => 0

/-- `n` more words of the schedule in front of `ws`, which has the newest first -/
def expand : Nat → List UInt32 → List UInt32
  | 0, ws => ws
  | n + 1, ws => expand n (next ws :: ws)

/-- round `t` with schedule word `w`; an abbreviation, so that `rw [rounds_eq]` finds it in the model's loop -/
abbrev step (t : Nat) (w : UInt32) (s : State) : State :=
  let b := s.2.1; let c := s.2.2.1; let d := s.2.2.2.1
  let fk : UInt32 × UInt32 :=
    if t < 20 then ((b &&& c) ||| ((~~~ b) &&& d), 0x5A827999)
    else if t < 40 then (b ^^^ c ^^^ d, 0x6ED9EBA1)
    else if t < 60 then ((b &&& c) ||| (b &&& d) ||| (c &&& d), 0x8F1BBCDC)
    else (b ^^^ c ^^^ d, 0xCA62C1D6)
  (rotl s.1 5 + fk.1 + s.2.2.2.2 + fk.2 + w, s.1, rotl b 30, c, d)

/-- `n` rounds from round `t` on; a schedule that ends early goes on with `0`, as `w[t]!` does -/
def rounds : Nat → Nat → List UInt32 → State → State
  | 0, _, _, s => s
  | n + 1, t, ws, s => rounds n (t + 1) ws.tail (step t (ws.headD 0) s)

def processBlock (h : State) (m : ByteArray) (off : Nat) : State :=
  let w16 := (List.range' 0 16).map fun t => word m (off + 4 * t)
  let s := rounds 80 0 (expand 64 w16.reverse).reverse h
  (h.1 + s.1, h.2.1 + s.2.1, h.2.2.1 + s.2.2.1, h.2.2.2.1 + s.2.2.2.1, h.2.2.2.2 + s.2.2.2.2)

/-- a `for` loop of the model that does not leave early is a fold -/
theorem forIn_range {β} (a b : Nat) (init : β) (g : Nat → β → β) :
    forIn (m := Id) [a:b] init (fun t s => pure (ForInStep.yield (g t s))) =
      pure ((List.range' a (b - a)).foldl (fun s t => g t s) init) := by
  rw [Std.Legacy.Range.forIn_eq_forIn_range', List.forIn_pure_yield_eq_foldl]; simp [Std.Legacy.Range.size]

theorem next_eq (l : List UInt32) (h : 16 ≤ l.length) :
    next l = rotl (l[2]! ^^^ l[7]! ^^^ l[13]! ^^^ l[15]!) 1 := by
  iterate 16 (obtain _ | ⟨_, l⟩ := l; · simp at h)
  rfl

theorem getElem!_reverse (w : Array UInt32) (k : Nat) (h : k < w.size) :
    w.toList.reverse[k]! = w[w.size - (k + 1)]! := by
  rw [getElem!_pos w _ (show w.size - (k + 1) < w.size by omega)]; simp [h, Nat.sub_sub, Nat.add_comm]

theorem expand_eq (n t : Nat) (w : Array UInt32) (ht : w.size = t) (h : 16 ≤ t) :
    ((List.range' t n).foldl
      (fun w t => w.push (rotl (w[t - 3]! ^^^ w[t - 8]! ^^^ w[t - 14]! ^^^ w[t - 16]!) 1)) w).toList =
      (expand n w.toList.reverse).reverse := by
  subst ht
  induction n generalizing w with
  | zero => simp [expand]
  | succ n ih =>
    rw [List.range'_succ, List.foldl_cons, expand, next_eq _ (by simpa using h)]
    simp only [getElem!_reverse, Nat.reduceAdd, show 2 < w.size by omega, show 7 < w.size by omega,
      show 13 < w.size by omega, show 15 < w.size by omega]
    simpa using ih (w.push (rotl (w[w.size - 3]! ^^^ w[w.size - 8]! ^^^ w[w.size - 14]! ^^^ w[w.size - 16]!) 1))
      (by simp; omega)

theorem rounds_eq (W : Array UInt32) (n t : Nat) (s : State) :
    (List.range' t n).foldl (fun s t => step t W[t]! s) s = rounds n t (W.toList.drop t) s := by
  induction n generalizing t s with
  | zero => rfl
  | succ n ih =>
    rw [List.range'_succ, List.foldl_cons, ih, rounds, List.tail_drop]
    congr 2
    simp [List.headD_eq_head?_getD, List.head?_drop, Array.getElem!_eq_getD, Array.getD_eq_getD_getElem?]; rfl

end Sha1.Fast

theorem Sha1.processBlock_eq_fast : Sha1.processBlock = Sha1.Fast.processBlock := by
  funext ⟨h0, h1, h2, h3, h4⟩ m off
  simp only [processBlock, Fast.forIn_range, pure_bind, Id.run_pure, Nat.reduceSub, Array.mkEmpty_eq,
    List.foldl_push_eq_append, List.append_toArray, List.nil_append]
  rw [Fast.rounds_eq, Fast.expand_eq _ _ _ ?_ (Nat.le_refl 16), List.drop_zero]
  · simp only [Fast.processBlock]
  · simp
