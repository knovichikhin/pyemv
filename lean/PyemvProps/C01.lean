import PyemvProofs.Mac
/-!
# C01 — the application cryptogram is the ISO 9797-1 Algorithm 3 MAC of the padded data

Property theorems only (helper lemmas live in `PyemvProofs`).  `generateAc` is the code-shaped model
of `pyemv.ac.generate_ac` that the correspondence check runs against the real code.
-/
namespace Pyemv.C01
open Spec

/-- For every 16-byte session key, every message, the three padding selections and every requested
length: the cryptogram is Algorithm 3 over the padded message (method 2 for EMV and the default,
method 1 for Visa), truncated to its leftmost bytes. -/
theorem generate_ac_eq_spec (sk data : Bytes) (pt : Option PaddingType) (len : Option Nat)
    (hsk : sk.length = 16) (hpt : pt ≠ some .other) :
    generateAc sk data pt len =
      .ok ((alg3 (sk.take 8) (sk.drop 8) (padFor (pt.getD .emv) data)).take (len.getD 8)) := by
  have hm := fun pm hp => mac3_key16 sk data pm len hsk hp
  simp only [generateAc, hsk, ite_ne_self]
  match pt, hpt with
  | none, _ => exact hm 2 (Or.inr rfl)
  | some .emv, _ => exact hm 2 (Or.inr rfl)
  | some .visa, _ => exact hm 1 (Or.inl rfl)

/-- the raw MAC helper, for 8-byte key halves -/
theorem mac3_eq_spec (k1 k2 data : Bytes) (pm : Int) (len : Option Nat)
    (h1 : k1.length = 8) (h2 : k2.length = 8) (hp : pm = 1 ∨ pm = 2) :
    mac3 k1 k2 data pm len =
      .ok ((alg3 k1 k2 (if pm = 1 then Spec.pad1 8 data else Spec.pad2 8 data)).take (len.getD 8)) :=
  mac3_eq_alg3 k1 k2 data pm len h1 h2 hp

/-- a requested length of 4..8 returns exactly the leftmost bytes of the 8-byte value -/
theorem truncation_leftmost (sk data : Bytes) (pt : Option PaddingType) (n : Nat)
    (hsk : sk.length = 16) (hpt : pt ≠ some .other) (hn : n ≤ 8) :
    ∃ full, generateAc sk data pt none = .ok full ∧ full.length = 8 ∧
      generateAc sk data pt (some n) = .ok (full.take n) ∧ (full.take n).length = n := by
  refine ⟨alg3 (sk.take 8) (sk.drop 8) (padFor (pt.getD .emv) data), ?_, alg3_length _ _ _, ?_, ?_⟩
  · rw [generate_ac_eq_spec sk data pt none hsk hpt, Option.getD_none, alg3_take_8]
  · rw [generate_ac_eq_spec sk data pt (some n) hsk hpt]; rfl
  · exact alg3_take_length _ _ _ hn

/-- Visa convention (method 1): nothing added to a non-empty whole number of blocks, one zero block for
the empty message; EMV convention (method 2): always at least the 0x80 byte -/
theorem padding_conventions (d : Bytes) :
    padFor .visa [] = zeros 8 ∧ (d ≠ [] → d.length % 8 = 0 → padFor .visa d = d) ∧
    padFor .emv d = d ++ [0x80] ++ zeros (fill1 8 (d.length + 1)) ∧ fill1 8 (d.length + 1) < 8 :=
  ⟨(Spec.pad1_cases []).1 rfl, (Spec.pad1_cases d).2, rfl, Spec.fill_after_marker_lt 8 (by omega) _⟩

/-- non-vacuity: a concrete key and message meet the hypotheses -/
example : (List.replicate 16 (1 : UInt8)).length = 16 ∧ (some PaddingType.visa) ≠ some .other := by decide

end Pyemv.C01
