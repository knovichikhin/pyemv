import PyemvGen.Mod.tools_xor
import PyemvGen.Mod.tools_odd_parity
import PyemvGen.Mod.tools_adjust
import PyemvGen.Mod.tools_kcv
import PyemvGen.Mod.tools_cbc
import PyemvGen.Mod.tools_ecb
import PyemvGen.Mod.mac_pad1
import PyemvGen.Mod.mac_pad2
import PyemvGen.Mod.mac_mac3
import PyemvGen.Mod.ac_generate_ac
import PyemvGen.Mod.ac_generate_arpc_1
import PyemvGen.Mod.ac_generate_arpc_2
import PyemvGen.Mod.kd_derive_icc_mk_a
import PyemvGen.Mod.kd_derive_icc_mk_b
import PyemvGen.Mod.kd_derive_common_sk
import PyemvGen.Mod.kd_derive_visa_sm_sk
import PyemvGen.Mod.sm_generate_command_mac
import PyemvGen.Mod.sm_encrypt_command_data
import PyemvGen.Mod.sm_format_iso2
import PyemvGen.Mod.sm_format_vis
import PyemvGen.Mod.cvv_generate_cvc3
import PyemvGen.Mod.kd_tree_derive
import PyemvGen.Mod.kd_tree_walk
import PyemvGen.Mod.kd_tree_sk
/-!
# Refinement: every function translated from the source equals the hand-written Impl model

`PyemvGen/ModGen.lean` is regenerated from `/repo/pyemv/{tools,mac,ac,kd,sm,cvv}.py` on every run by
`harness/translate_py.py`.  The theorems of the modules imported here say that each translated function equals the function of
`PyemvModel` that all property theorems are about — for every argument.  A change to one of those source
functions that changes its behaviour breaks the corresponding proof.
-/
