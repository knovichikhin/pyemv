import PyemvGen.Mod.Common
namespace Pyemv.ModRefines
open Pyemv.Gen

theorem tools_kcv (k : Bytes) (n : Nat) : Gen.tools.key_check_digits k n = keyCheckDigits k n := by
  unfold Gen.tools.key_check_digits keyCheckDigits
  rfl

end Pyemv.ModRefines
