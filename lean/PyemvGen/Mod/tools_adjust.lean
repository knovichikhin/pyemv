import PyemvGen.Mod.Common
import PyemvGen.Mod.tools_odd_parity
namespace Pyemv.ModRefines
open Pyemv.Gen

theorem tools_adjust (k : Bytes) : Gen.tools.adjust_key_parity k = .ok (adjustKeyParity k) := by
  unfold Gen.tools.adjust_key_parity adjustKeyParity
  simp only [tools_odd_parity, pure, Except.pure, Except.ok.injEq]
  apply List.map_congr_left
  intro b _
  by_cases h : oddParity b.toNat = 0 <;> simp [h]

end Pyemv.ModRefines
