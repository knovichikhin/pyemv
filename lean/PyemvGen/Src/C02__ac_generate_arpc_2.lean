import PyemvGen.Mod.ac_generate_arpc_2
import PyemvProps.C02
/-! Generated by lean/mk_source.py (committed). C02 restated about the definitions translated from the
repository's source on this run (`Pyemv.Gen.*`), by the refinement theorem(s) ac_generate_arpc_2. -/
namespace Pyemv.C02.Source
open Spec

theorem arpc2_eq_spec (sk arqc csu : Bytes) (pad : Option Bytes) (hsk : sk.length = 16) (hq : arqc.length = 8)
    (hc : csu.length = 4) (hp : (pad.getD []).length ≤ 8) :
    Gen.ac.generate_arpc_2 sk arqc csu pad =
      .ok ((alg3 (sk.take 8) (sk.drop 8) (Spec.pad2 8 (arqc ++ csu ++ pad.getD []))).take 4) := by
  simp only [ModRefines.ac_generate_arpc_2]
  exact _root_.Pyemv.C02.arpc2_eq_spec sk arqc csu pad hsk hq hc hp

theorem arpc2_none_eq_empty (sk arqc csu : Bytes) :
    Gen.ac.generate_arpc_2 sk arqc csu none = Gen.ac.generate_arpc_2 sk arqc csu (some []) := by
  simp only [ModRefines.ac_generate_arpc_2]
  exact _root_.Pyemv.C02.arpc2_none_eq_empty sk arqc csu

end Pyemv.C02.Source
