import PyemvGen.Mod.kd_derive_icc_mk_b
import PyemvProps.C13
/-! Generated by lean/mk_source.py (committed). C13 restated about the definitions translated from the
repository's source on this run (`Pyemv.Gen.*`), by the refinement theorem(s) kd_derive_icc_mk_b. -/
namespace Pyemv.C13.Source
open Spec

theorem mk_b_key (issMk : Bytes) (pan : StrOrBytes) (psn : Option StrOrBytes) (k : Bytes)
    (h : Gen.kd.derive_icc_mk_b issMk pan psn = .ok k) :
    OddParityKey k := by
  simp only [ModRefines.kd_derive_icc_mk_b] at *
  exact _root_.Pyemv.C13.mk_b_key issMk pan psn k h

end Pyemv.C13.Source
