import PyemvProofs.Mac
/-! # The TDES helpers of tools.py under a 16-byte key, in terms of the Spec's `tdesE` -/
namespace Pyemv
open Spec

theorem encryptTdesEcb_16 (K d : Bytes) (hK : K.length = 16) :
    encryptTdesEcb K d = .ok (ecbUpdate (tdesE K) d) := by
  simp only [encryptTdesEcb, tdesKeys_16 K hK, encBlock_16, ok_bind, pure_eq_ok]

theorem encryptTdesCbc_16 (K iv d : Bytes) (hK : K.length = 16) (hiv : iv.length = 8) :
    encryptTdesCbc K iv d = .ok (cbcEncUpdate (tdesE K) iv d).1 := by
  simp only [encryptTdesCbc, tdesKeys_16 K hK, encBlock_16, ok_bind, hiv, ite_ne_self, pure_eq_ok]

theorem ecbUpdate_one (f : Bytes → Bytes) (a : Bytes) (ha : a.length = 8) : ecbUpdate f a = f a := by
  simp [ecbUpdate, blocks8_single a ha]

theorem ecbUpdate_two (f : Bytes → Bytes) (a b : Bytes) (ha : a.length = 8) (hb : b.length = 8) :
    ecbUpdate f (a ++ b) = f a ++ f b := by
  simp [ecbUpdate, blocks8_append a b ha, blocks8_single b hb]

theorem ecb_two_blocks (K a b : Bytes) (hK : K.length = 16) (ha : a.length = 8) (hb : b.length = 8) :
    encryptTdesEcb K (a ++ b) = .ok (tdesE K a ++ tdesE K b) := by
  rw [encryptTdesEcb_16 K _ hK, ecbUpdate_two _ a b ha hb]

theorem cbc_one_block_zero_iv (f : Bytes → Bytes) (x : Bytes) (hx : x.length = 8) :
    (cbcEncUpdate f (zeros 8) x).1 = f x := by
  rw [cbcEncUpdate_one f _ x hx, xorB_zeros x 8 hx]

/-- the block laws of the concrete DES, lifted to the Spec's two-key TDES -/
theorem tdesD_tdesE (K b : Bytes) (hb : b.length = 8) : tdesD K (tdesE K b) = b := by
  rw [← encBlock_16, ← decBlock_16]; exact decBlock_encBlock _ b hb

theorem tdesE_tdesD (K b : Bytes) (hb : b.length = 8) : tdesE K (tdesD K b) = b := by
  rw [← encBlock_16, ← decBlock_16]; exact encBlock_decBlock _ b hb

theorem desD_desE (k b : Bytes) (hb : b.length = 8) : desD k (desE k b) = b :=
  block_cancel (fun _ => Des.crypt_lt _ _) (Des.dec_enc _) b hb

end Pyemv
