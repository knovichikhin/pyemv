import PyemvProofs.Tree
/-!
# C05 — EMV2000-tree session keys follow Annex A1.3; the gate; uniqueness per ATC

`Tree.IK` is the two-index recurrence of EMV 4.1 Book 2 A1.3.1 over the map Φ (`phi`); `Tree.skSpec` is
`IK(H, atc) ⊕ GP`.  The code's `walk` returning (parent, grandparent) is shown to compute it.
-/
namespace Pyemv.C05

/-- For every 16-byte master key and IV, 2-byte ATC, branch factor `b ≥ 1` and height `H+1 ≥ 1` that
pass the gate: the session key is the tree derivation of A1.3.1 (final intermediate key XOR its
grandparent), parity-adjusted. -/
theorem tree_sk_eq_spec (mk atc iv : Bytes) (b H : Nat) (hmk : mk.length = 16) (ha : atc.length = 2)
    (hiv : iv.length = 16) (hb : 0 < b) (hg : b ^ (H + 1) > 65535) :
    deriveEmv2000TreeSk mk atc (H + 1) b iv =
      .ok (adjustKeyParity (Tree.skSpec phi b mk iv xorB H (fromBE atc))) := by
  have hj : fromBE atc < 256 ^ 8 := Nat.lt_trans (fromBE_lt_of_length ha) (by decide)
  -- the walk down to the parent and grandparent, whose keys have 16 bytes; then the last derivation step
  have hwalk := treeWalk_eq b mk iv hb hmk hiv H (fromBE atc / b) (Nat.lt_of_le_of_lt (Nat.div_le_self _ _) hj)
  obtain ⟨l1, l2⟩ := walk_length b mk iv hmk hiv (fromBE atc / b) H
  have hlast := treeDerive_eq b _ _ (fromBE atc) hb l1 l2 (Nat.lt_of_le_of_lt (Nat.mod_le _ _) hj)
  simp only [deriveEmv2000TreeSk, hmk, ha, hiv, ite_ne_self, if_neg (Nat.not_le.mpr hg), if_neg (Nat.ne_of_gt hb),
    Nat.add_sub_cancel, hwalk, ok_bind, hlast, pure_eq_ok]
  rw [xor_eq_xorB _ _ (by rw [phi_length, l2]), ← Tree.skImpl_eq_skSpec]
  rfl

/-- rejected parameters raise ValueError -/
theorem gate_rejects (mk atc iv : Bytes) (b h : Nat) (hmk : mk.length = 16) (ha : atc.length = 2)
    (hiv : iv.length = 16) (hsmall : b ^ h ≤ 65535) :
    deriveEmv2000TreeSk mk atc h b iv = .error .valueError := by
  simp only [deriveEmv2000TreeSk, hmk, ha, hiv, ite_ne_self, if_pos hsmall, throw_bind]

/-- **The gate**: with well-sized key, ATC and IV, parameters are accepted exactly when `b^H` exceeds
65535 (`b ≥ 1`, `H ≥ 1`). -/
theorem gate_iff (mk atc iv : Bytes) (b H : Nat) (hmk : mk.length = 16) (ha : atc.length = 2)
    (hiv : iv.length = 16) (hb : 0 < b) :
    (∃ k, deriveEmv2000TreeSk mk atc (H + 1) b iv = .ok k) ↔ b ^ (H + 1) > 65535 := by
  constructor
  · rintro ⟨k, hk⟩
    exact Nat.lt_of_not_le fun hle => by rw [gate_rejects mk atc iv b _ hmk ha hiv hle] at hk; cases hk
  · intro hg; exact ⟨_, tree_sk_eq_spec mk atc iv b H hmk ha hiv hb hg⟩

/-- accepted ⇔ every ATC 0..65535 follows its own path of base-`b` digits through the tree -/
theorem gate_iff_paths_distinct (b H : Nat) (hb : 0 < b) :
    b ^ H > 65535 ↔ ∀ a₁ a₂, a₁ ≤ 65535 → a₂ ≤ 65535 → Tree.digitsRev b H a₁ = Tree.digitsRev b H a₂ → a₁ = a₂ :=
  Tree.gate_iff_injective b H hb

/-- the key at a node depends on the ATC only through its `H` low-order base-`b` digits -/
theorem sk_depends_on_digits (mk iv : Bytes) (b H a : Nat) (hb : 0 < b) :
    Tree.skSpec phi b mk iv xorB H a = Tree.skSpec phi b mk iv xorB H (a % b ^ (H + 1)) :=
  (Tree.skSpec_mod phi b mk iv xorB H a).symm

/-- **why the gate must be strict** (the defect repaired by the `fix:` commit): whenever `b^H ≤ 65535`,
ATC 0 and ATC `b^H` are two different valid ATCs with the same session key under every key and IV. -/
theorem collision_of_small_tree (mk iv : Bytes) (b H : Nat) (hb : 0 < b) (hsmall : b ^ (H + 1) ≤ 65535) :
    (0 : Nat) ≠ b ^ (H + 1) ∧ b ^ (H + 1) ≤ 65535 ∧
      Tree.skSpec phi b mk iv xorB H 0 = Tree.skSpec phi b mk iv xorB H (b ^ (H + 1)) :=
  Tree.collision_of_small_tree phi b mk iv xorB hb H hsmall

/-- the pinned, pre-repair gate accepted `(65535, 1)` although it is such a small tree -/
theorem old_gate_accepted_a_colliding_tree : treeGateOld 65535 1 = false ∧ (65535 : Nat) ^ 1 ≤ 65535 := by decide

/-- **uniqueness — partial.**  Full statement (kept visible, *not* proved): for accepted parameters
`a₁ ≠ a₂ → sk a₁ ≠ sk a₂`.  Beyond the path level this says that a 65,536-leaf TDES tree has no
accidental collision after the 16 parity bits are discarded — a statement about the concrete cipher
that no proof over block-cipher laws can give.  What is proved: the gate accepts exactly the parameters
for which distinct ATCs follow distinct derivation paths (`gate_iff_paths_distinct`), and rejects exactly
those for which a collision provably exists (`collision_of_small_tree`).  The correspondence check
additionally enumerates all 65,536 ATCs on the real code and tests pairwise distinctness. -/
theorem uniqueness_partial (b H : Nat) (hb : 0 < b) (hg : b ^ H > 65535) (a₁ a₂ : Nat) (h1 : a₁ ≤ 65535)
    (h2 : a₂ ≤ 65535) (hne : a₁ ≠ a₂) : Tree.digitsRev b H a₁ ≠ Tree.digitsRev b H a₂ :=
  fun hd => hne ((gate_iff_paths_distinct b H hb).mp hg a₁ a₂ h1 h2 hd)

example : (4 : Nat) ^ (7 + 1) > 65535 ∧ (2 : Nat) ^ (15 + 1) > 65535 ∧ ¬ ((65535 : Nat) ^ 1 > 65535) := by decide

end Pyemv.C05
