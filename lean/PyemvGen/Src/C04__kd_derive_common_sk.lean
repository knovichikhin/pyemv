import PyemvGen.Mod.kd_derive_common_sk
import PyemvProps.C04
/-! Generated by lean/mk_source.py (committed). C04 restated about the definitions translated from the
repository's source on this run (`Pyemv.Gen.*`), by the refinement theorem(s) kd_derive_common_sk. -/
namespace Pyemv.C04.Source
open Spec

theorem common_sk_eq_spec (mk r : Bytes) (hmk : mk.length = 16) (hr : r.length = 8) :
    Gen.kd.derive_common_sk mk r = .ok (adjustKeyParity (tdesE mk (r.set 2 0xF0) ++ tdesE mk (r.set 2 0x0F))) := by
  simp only [ModRefines.kd_derive_common_sk]
  exact _root_.Pyemv.C04.common_sk_eq_spec mk r hmk hr

theorem common_sk_ignores_byte2 (mk r : Bytes) (x : UInt8) :
    Gen.kd.derive_common_sk mk (r.set 2 x) = Gen.kd.derive_common_sk mk r := by
  simp only [ModRefines.kd_derive_common_sk]
  exact _root_.Pyemv.C04.common_sk_ignores_byte2 mk r x

end Pyemv.C04.Source
