import PyemvProofs.Hex
import PyemvModel.Cvn
/-!
# C16 — text and byte forms of PAN, PSN and PIN give identical results

`SameText a b`: two arguments that have the same `len()` and decode to the same text.  A digit string
and its ASCII bytes are such a pair; every function that takes a PAN, PSN, PIN or current PIN is shown
to depend on the argument only through those two observations.
-/
namespace Pyemv.C16

def SameText (a b : StrOrBytes) : Prop := a.len = b.len ∧ a.text = b.text

/-- a string of decimal digits and the ASCII bytes of the same digits -/
theorem sameText_of_digits (s : PyStr) (h : IsDigits s) : SameText (.str s) (.bytes (asciiBytes s)) :=
  ⟨(asciiBytes_length s).symm, (text_asciiBytes s fun c hc => (digit_table c (h c hc)).2.2.2).symm⟩

theorem sameText_refl (a : StrOrBytes) : SameText a a := ⟨rfl, rfl⟩
theorem sameText_symm {a b : StrOrBytes} (h : SameText a b) : SameText b a := ⟨h.1.symm, h.2.symm⟩

def SameTextOpt : Option StrOrBytes → Option StrOrBytes → Prop
  | none, none => True
  | some a, some b => SameText a b
  | _, _ => False

theorem SameTextOpt.cases {c d : Option StrOrBytes} (hc : SameTextOpt c d) :
    (c = none ∧ d = none) ∨ ∃ x y, c = some x ∧ d = some y ∧ SameText x y :=
  match c, d, hc with
  | none, none, _ => .inl ⟨rfl, rfl⟩
  | some x, some y, h => .inr ⟨x, y, rfl, rfl, h⟩

theorem iso2_forms (a b : StrOrBytes) (h : SameText a b) : formatIso2PinBlock a = formatIso2PinBlock b := by
  unfold formatIso2PinBlock; rw [h.1, h.2]

theorem vis_forms (mk : Bytes) (a b : StrOrBytes) (c d : Option StrOrBytes) (h : SameText a b) (hc : SameTextOpt c d) :
    formatVisPinBlock mk a c = formatVisPinBlock mk b d := by
  unfold formatVisPinBlock
  rw [h.1, h.2]
  obtain ⟨rfl, rfl⟩ | ⟨x, y, rfl, rfl, hxy⟩ := hc.cases
  · rfl
  · simp only [hxy.2]

theorem psnTextR_forms (c d : Option StrOrBytes) (hc : SameTextOpt c d) : psnTextR c = psnTextR d := by
  obtain ⟨rfl, rfl⟩ | ⟨x, y, rfl, rfl, hxy⟩ := hc.cases
  · rfl
  · exact hxy.2

theorem mk_a_forms (k : Bytes) (a b : StrOrBytes) (c d : Option StrOrBytes) (h : SameText a b) (hc : SameTextOpt c d) :
    deriveIccMkA k a c = deriveIccMkA k b d := by
  unfold deriveIccMkA
  rw [h.2, psnTextR_forms c d hc]

theorem mk_b_forms (k : Bytes) (a b : StrOrBytes) (c d : Option StrOrBytes) (h : SameText a b) (hc : SameTextOpt c d) :
    deriveIccMkB k a c = deriveIccMkB k b d := by
  unfold deriveIccMkB
  rw [h.1, h.2, mk_a_forms k a b c d h hc, psnTextR_forms c d hc]

/-- the constructor default: an absent *or empty* PSN means "00", in either form -/
theorem psnOr00_forms (s : PyStr) (h : IsDigits s) :
    SameText (Cvn.psnOr00 (some (.str s))) (Cvn.psnOr00 (some (.bytes (asciiBytes s)))) := by
  unfold Cvn.psnOr00 StrOrBytes.truthy
  cases s with
  | nil => exact sameText_refl _
  | cons c cs => simpa [asciiBytes] using sameText_of_digits (c :: cs) h

theorem ctor_forms (p : Cvn.Profile) (k1 k2 k3 : Bytes) (a b : StrOrBytes) (c d : Option StrOrBytes)
    (h : SameText a b) (hc : SameText (Cvn.psnOr00 c) (Cvn.psnOr00 d)) :
    Cvn.new p k1 k2 k3 a c = Cvn.new p k1 k2 k3 b d := by
  unfold Cvn.new
  cases p.mkOpt with
  | a => simp only [mk_a_forms _ a b _ _ h (show SameTextOpt (some _) (some _) from hc)]
  | b => simp only [mk_b_forms _ a b _ _ h (show SameTextOpt (some _) (some _) from hc)]

/-- all eight constructors, every str/bytes assignment to (pan, psn), including absent and empty PSN -/
theorem ctor_forms_digits (p : Cvn.Profile) (k1 k2 k3 : Bytes) (pan : PyStr) (psn : Option PyStr)
    (hp : IsDigits pan) (hs : ∀ s, psn = some s → IsDigits s) :
    let r := Cvn.new p k1 k2 k3 (.str pan) (psn.map .str)
    Cvn.new p k1 k2 k3 (.bytes (asciiBytes pan)) (psn.map .str) = r ∧
    Cvn.new p k1 k2 k3 (.str pan) (psn.map fun s => .bytes (asciiBytes s)) = r ∧
    Cvn.new p k1 k2 k3 (.bytes (asciiBytes pan)) (psn.map fun s => .bytes (asciiBytes s)) = r := by
  intro r
  have hpan := sameText_of_digits pan hp
  have hpsn : SameText (Cvn.psnOr00 (psn.map .str)) (Cvn.psnOr00 (psn.map fun s => .bytes (asciiBytes s))) := by
    cases psn with
    | none => exact sameText_refl _
    | some s => exact psnOr00_forms s (hs s rfl)
  exact ⟨(ctor_forms p k1 k2 k3 _ _ _ _ hpan (sameText_refl _)).symm,
    (ctor_forms p k1 k2 k3 _ _ _ _ (sameText_refl _) hpsn).symm,
    (ctor_forms p k1 k2 k3 _ _ _ _ hpan hpsn).symm⟩

theorem pin_block_forms (p : Cvn.Profile) (card : Cvn.Card) (a b : StrOrBytes) (c d : Option StrOrBytes)
    (h : SameText a b) (hc : SameTextOpt c d) : Cvn.pinBlock p card a c = Cvn.pinBlock p card b d := by
  unfold Cvn.pinBlock
  -- the kind of PIN block is chosen by the profile and by whether a current PIN is given: each kind has its lemma
  match c, d, hc with
  | none, none, _ =>
    cases p.pin <;> simp only [iso2_forms a b h, vis_forms card.ac a b none none h trivial]
  | some x, some y, hxy =>
    cases p.pin <;> simp only [iso2_forms a b h, vis_forms card.ac a b (some x) (some y) h hxy]

/-- every PIN-change method, every str/bytes assignment to (pin, current pin) -/
theorem pin_change_forms (p : Cvn.Profile) (card : Cvn.Card) (a b : StrOrBytes) (c d : Option StrOrBytes)
    (arqc atc : Bytes) (h : SameText a b) (hc : SameTextOpt c d) :
    Cvn.pinChange p card a arqc atc c = Cvn.pinChange p card b arqc atc d := by
  unfold Cvn.pinChange
  rw [pin_block_forms p card a b c d h hc]
  have : Cvn.pinHeader p c = Cvn.pinHeader p d := by
    obtain ⟨rfl, rfl⟩ | ⟨x, y, rfl, rfl, -⟩ := hc.cases
    · rfl
    · unfold Cvn.pinHeader; cases p.hdr <;> rfl
  rw [this]

example : SameText (.str ['1', '2']) (.bytes [0x31, 0x32]) := ⟨rfl, rfl⟩

end Pyemv.C16
