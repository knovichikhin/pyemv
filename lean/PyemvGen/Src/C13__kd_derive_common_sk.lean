import PyemvGen.Mod.kd_derive_common_sk
import PyemvProps.C13
/-! Generated by lean/mk_source.py (committed). C13 restated about the definitions translated from the
repository's source on this run (`Pyemv.Gen.*`), by the refinement theorem(s) kd_derive_common_sk. -/
namespace Pyemv.C13.Source
open Spec

theorem common_sk_key (mk r k : Bytes) (h : Gen.kd.derive_common_sk mk r = .ok k) :
    OddParityKey k := by
  simp only [ModRefines.kd_derive_common_sk] at *
  exact _root_.Pyemv.C13.common_sk_key mk r k h

end Pyemv.C13.Source
