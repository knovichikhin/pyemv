import PyemvProofs.Parity
/-! # C04 — common and Visa session keys follow their derivation formulas -/
namespace Pyemv.C04
open Spec

/-- the common session key is TDES(R with its third byte replaced by F0) ‖ TDES(R with its third byte
replaced by 0F), parity-adjusted -/
theorem common_sk_eq_spec (mk r : Bytes) (hmk : mk.length = 16) (hr : r.length = 8) :
    deriveCommonSk mk r = .ok (adjustKeyParity (tdesE mk (r.set 2 0xF0) ++ tdesE mk (r.set 2 0x0F))) := by
  have e := ecb_two_blocks mk (r.set 2 0xF0) (r.set 2 0x0F) hmk (by simp [hr]) (by simp [hr])
  simp only [deriveCommonSk, hmk, hr, ite_ne_self, e, ok_bind, pure_eq_ok]

/-- … so it does not depend on the third byte of R -/
theorem common_sk_ignores_byte2 (mk r : Bytes) (x : UInt8) : deriveCommonSk mk (r.set 2 x) = deriveCommonSk mk r := by
  unfold deriveCommonSk
  simp only [List.length_set, List.set_set]

/-- … and, before the parity bits are forced, it determines every other byte of R: two diversifiers
that differ outside the third byte give different TDES outputs (the cipher is a permutation).
"Depends on every byte" *after* parity adjustment is a statement about DES's avalanche behaviour and is
not claimed. -/
theorem common_sk_preparity_injective (mk r r' : Bytes) (hr : r.length = 8) (hr' : r'.length = 8)
    (h : tdesE mk (r.set 2 0xF0) = tdesE mk (r'.set 2 0xF0)) : r.set 2 0xF0 = r'.set 2 0xF0 := by
  have := congrArg (tdesD mk) h
  rwa [tdesD_tdesE mk _ (by simp [hr]), tdesD_tdesE mk _ (by simp [hr'])] at this

/-- the Visa formula: master key with the ATC XORed into the last two bytes of the left half and the
complemented ATC into the last two bytes of the right half -/
def visaFormula (mk atc : Bytes) : Bytes :=
  mk.take 6 ++ xorB (slice mk 6 8) atc ++ slice mk 8 14 ++ xorB (slice mk 14 16) (atc.map (· ^^^ 0xFF))

theorem visa_sk_eq_spec (mk atc : Bytes) (hmk : mk.length = 16) (ha : atc.length = 2) :
    deriveVisaSmSk mk atc = .ok (adjustKeyParity (visaFormula mk atc)) := by
  simp only [deriveVisaSmSk, hmk, ha, ite_ne_self, pure_eq_ok]
  rw [xor_eq_xorB atc _ (by simp [ha]), xor_eq_xorB _ (mk.take 8) (by simp [ha, hmk]),
    xor_eq_xorB _ (mk.drop 8) (by simp [ha, hmk])]
  have e3 : xorB atc [0xFF, 0xFF] = atc.map (· ^^^ 0xFF) := by rw [← xorB_replicate, ha]; rfl
  -- the six zero bytes leave `mk[0:6]` and `mk[8:14]` as they are; `mk[14:]` is `mk[14:16]`
  rw [zeros_append_xorB, zeros_append_xorB, e3, List.take_take, List.drop_take, List.drop_drop, xorB_comm atc,
    xorB_comm (atc.map _), visaFormula, show slice mk 14 16 = mk.drop (8 + 6) from List.take_of_length_le (by simp [hmk])]
  simp only [List.append_assoc]
  rfl

example : visaFormula (List.replicate 16 0) [0x12, 0x34] = [0,0,0,0,0,0,0x12,0x34, 0,0,0,0,0,0,0xED,0xCB] := by decide

end Pyemv.C04
