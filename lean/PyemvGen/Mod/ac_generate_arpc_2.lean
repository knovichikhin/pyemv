import PyemvGen.Mod.Common
import PyemvProps.C02
import PyemvGen.Mod.mac_mac3
namespace Pyemv.ModRefines
open Pyemv.Gen

theorem ac_generate_arpc_2 (sk q csu : Bytes) (p : Option Bytes) : Gen.ac.generate_arpc_2 sk q csu p = generateArpc2 sk q csu p := by
  unfold Gen.ac.generate_arpc_2 generateArpc2
  simp only [mac_mac3, throw_eq, pure_eq_ok, ok_bind, error_bind, bind_ok, except_match_eta]
  same_guards

/-- **C02 (method 2) about the translated source** -/
theorem source_generate_arpc_2 (sk arqc csu : Bytes) (pad : Option Bytes) (hsk : sk.length = 16) (hq : arqc.length = 8)
    (hc : csu.length = 4) (hp : (pad.getD []).length ≤ 8) :
    Gen.ac.generate_arpc_2 sk arqc csu pad =
      .ok ((Spec.alg3 (sk.take 8) (sk.drop 8) (Spec.pad2 8 (arqc ++ csu ++ pad.getD []))).take 4) := by
  rw [ac_generate_arpc_2]; exact C02.arpc2_eq_spec sk arqc csu pad hsk hq hc hp

end Pyemv.ModRefines
