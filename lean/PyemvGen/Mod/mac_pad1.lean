import PyemvGen.Mod.Common
namespace Pyemv.ModRefines
open Pyemv.Gen

theorem mac_pad1 (d : Bytes) (bs : Option Nat) : Gen.mac.pad_iso9797_1 d bs = pad1 d bs := by
  unfold Gen.mac.pad_iso9797_1 pad1
  simp only [pyMod_bind, rep_flatten, zeros, gt_iff_lt, throw_eq, pure_eq_ok, ok_bind, error_bind, bind_ok, except_match_eta]
  same_guards

end Pyemv.ModRefines
