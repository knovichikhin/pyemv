import PyemvGen.Mod.sm_format_vis
import PyemvProps.C16
/-! Generated by lean/mk_source.py (committed). C16 restated about the definitions translated from the
repository's source on this run (`Pyemv.Gen.*`), by the refinement theorem(s) sm_format_vis. -/
namespace Pyemv.C16.Source
open Spec

theorem vis_forms (mk : Bytes) (a b : StrOrBytes) (c d : Option StrOrBytes) (h : SameText a b) (hc : SameTextOpt c d) :
    Gen.sm.format_vis_pin_block mk a c = Gen.sm.format_vis_pin_block mk b d := by
  simp only [ModRefines.sm_format_vis]
  exact _root_.Pyemv.C16.vis_forms mk a b c d h hc

end Pyemv.C16.Source
