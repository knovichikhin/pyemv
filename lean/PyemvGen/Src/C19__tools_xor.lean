import PyemvGen.Mod.tools_xor
import PyemvProps.C19
/-! Generated by lean/mk_source.py (committed). C19 restated about the definitions translated from the
repository's source on this run (`Pyemv.Gen.*`), by the refinement theorem(s) tools_xor. -/
namespace Pyemv.C19.Source
open Spec

theorem xor_eq_zipWith (a b : Bytes) (h : a.length = b.length) : Gen.tools.xor a b = .ok (List.zipWith (· ^^^ ·) a b) := by
  rw [ModRefines.tools_xor, _root_.Pyemv.C19.xor_eq_zipWith a b h]

theorem xor_bigendian_host (a b : Bytes) (h : a.length = b.length) :
    Gen.tools.xor_bigendian a b = .ok (List.zipWith (· ^^^ ·) a b) ∧ Gen.tools.xor_bigendian a b = Gen.tools.xor a b := by
  rw [ModRefines.tools_xor_bigendian, ModRefines.tools_xor, (_root_.Pyemv.C19.xor_bigendian_host a b h).1,
    _root_.Pyemv.C19.xor_eq_zipWith a b h]
  exact ⟨rfl, rfl⟩

theorem xor_same_length (a b : Bytes) : ∃ r, Gen.tools.xor a b = .ok r ∧ r.length = a.length :=
  ⟨_, ModRefines.tools_xor a b, _root_.Pyemv.C19.xor_same_length a b⟩

theorem xor_self_inverse (a b : Bytes) (h : a.length = b.length) :
    ∃ r, Gen.tools.xor a b = .ok r ∧ Gen.tools.xor r b = .ok a := by
  refine ⟨_, ModRefines.tools_xor a b, ?_⟩
  rw [ModRefines.tools_xor, _root_.Pyemv.C19.xor_self_inverse a b h]

end Pyemv.C19.Source
