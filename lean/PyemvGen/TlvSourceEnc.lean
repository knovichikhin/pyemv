import PyemvGen.TlvRefinesEnc
import PyemvProps.C10
/-! C10 restated about `TlvGen.encode`, the encoder translated from the repository's `pyemv/tlv.py` on this run
(`TlvRefines.tlv_encode`: translated encoder = hand-written Impl encoder, for every tree and option). -/
namespace Pyemv.TlvSource
open Pyemv.Tlv Pyemv.RoundTrip Pyemv.TlvRefines

theorem encode_ok_iff (si : Option Bool) (t : List (PyStr × PyVal)) (b : Bytes) :
    TlvGen.encode si t = .ok b ↔ Tlv.encode (si.getD false) t = .ok b := by
  rw [tlv_encode]; cases Tlv.encode (si.getD false) t <;> simp [embed]

theorem encode_err_iff (si : Option Bool) (t : List (PyStr × PyVal)) (e : EErr) :
    TlvGen.encode si t = .err e ↔ Tlv.encode (si.getD false) t = .error e := by
  rw [tlv_encode]; cases Tlv.encode (si.getD false) t <;> simp [embed]

/-- the translated encoder returns bytes or raises `EncodeError`: no other exception, always terminates -/
theorem encode_never_crashes (si : Option Bool) (t : List (PyStr × PyVal)) :
    TlvGen.encode si t ≠ .crash ∧ TlvGen.encode si t ≠ .fuel := by
  rw [tlv_encode]; cases Tlv.encode (si.getD false) t <;> exact ⟨nofun, nofun⟩

/-- **C10, acceptance**: exactly the well-formed trees are encoded. -/
theorem encode_accepts_iff_wellformed (si : Option Bool) (t : List (PyStr × PyVal)) :
    (∃ b, TlvGen.encode si t = .ok b) ↔ WFTree (si.getD false) t := by
  simp only [encode_ok_iff]; exact C10.encode_accepts_iff_wellformed _ t

/-- **C10, canonical**: the output is the serialisation of a well-formed syntax tree mirroring the mapping —
tag bytes, shortest definite length, value, in mapping order. -/
theorem encode_canonical (si : Option Bool) (t : List (PyStr × PyVal)) (b : Bytes) (h : TlvGen.encode si t = .ok b)
    (hlen : si.getD false = false → b.length < 256 ^ 127) :
    ∃ items, b = printItems items ∧ Mirror (si.getD false) t items ∧ ∀ i ∈ items, WF (si.getD false) i :=
  C10.encode_canonical _ t b ((encode_ok_iff si t b).mp h) hlen

/-- **C10, refusal**: a tree that is not well-formed is refused with `EncodeError` naming the first offender in
evaluation order (a key of the tree), and no bytes are produced. -/
theorem encode_error_names_first_offender (si : Option Bool) (t : List (PyStr × PyVal)) (h : ¬ WFTree (si.getD false) t) :
    ∃ e, TlvGen.encode si t = .err e ∧ FirstOffender (si.getD false) e.tag t ∧ KeyIn e.tag t := by
  obtain ⟨e, he, hf⟩ := C10.encode_error_names_first_offender _ t h
  exact ⟨e, (encode_err_iff si t e).mpr he, hf, keyIn_of_offender hf⟩

end Pyemv.TlvSource
