import PyemvProofs.Tdes
import PyemvProofs.Decimal
/-! # C11 — CVC3 is the specified five-digit dynamic code (for the repaired `generate_cvc3`) -/
namespace Pyemv.C11
open Spec

/-- the 16-bit CVC3 value: last two bytes of TDES(IV ‖ UN ‖ ATC), IV = last two bytes of the
method-2-padded Algorithm 3 MAC of the track template -/
def cvc3Value (k track atc un : Bytes) : Nat :=
  fromBE (lastN 2 (tdesE k (lastN 2 (alg3 (k.take 8) (k.drop 8) (Spec.pad2 8 track)) ++ un ++ atc)))

theorem cvc3Value_lt (k track atc un : Bytes) : cvc3Value k track atc un < 65536 :=
  fromBE_lt_of_length (n := 2) (by rw [lastN_length, tdesE_length]; rfl)

/-- for every 16-byte key, track template of any length, 2-byte ATC and 4-byte UN: exactly the five
decimal digits of that value, leading zeros included -/
theorem cvc3_eq_spec (k track atc un : Bytes) (hk : k.length = 16) (ha : atc.length = 2) (hu : un.length = 4) :
    generateCvc3 k track atc un = .ok (digits5 (cvc3Value k track atc un)) := by
  simp only [generateCvc3, hk, ha, hu, ite_ne_self, mac3_key16_pad2 k track none hk, ok_bind,
    Option.getD_none, alg3_take_8, encryptTdesEcb_16 k _ hk, pure_eq_ok]
  rw [ecbUpdate_one _ _ (by simp [ha, hu]), digits5_eq,
    ← zfill_pyStr 5 _ (by decide) (Nat.lt_trans (cvc3Value_lt k track atc un) (by decide))]
  rfl

theorem cvc3_length_5 (v : Nat) : (digits5 v).length = 5 := rfl

theorem cvc3_all_digits (v : Nat) : ∀ c ∈ digits5 v, c.isDigit = true := by
  intro c hc
  simp only [digits5, List.mem_cons, List.mem_nil_iff, or_false] at hc
  rcases hc with rfl | rfl | rfl | rfl | rfl <;> exact (decDigit_facts _).2

/-- the string denotes the 16-bit value -/
theorem cvc3_value (k track atc un : Bytes) : decValue (digits5 (cvc3Value k track atc un)) = cvc3Value k track atc un := by
  rw [digits5_eq, decValue_digitsN, Nat.mod_eq_of_lt (Nat.lt_trans (cvc3Value_lt k track atc un) (by decide))]

/-- its `n` last characters are the `n` least significant decimal digits, so they can always be
compared with the `n` digits carried in the track data (`n ≤ 5`) -/
theorem last_n_digits (v : Nat) :
    lastN 1 (digits5 v) = [decDigit v] ∧
    lastN 2 (digits5 v) = [decDigit (v % 100 / 10), decDigit (v % 100)] ∧
    lastN 3 (digits5 v) = [decDigit (v % 1000 / 100), decDigit (v % 1000 / 10), decDigit (v % 1000)] ∧
    lastN 4 (digits5 v) = [decDigit (v % 10000 / 1000), decDigit (v % 10000 / 100), decDigit (v % 10000 / 10), decDigit (v % 10000)] := by
  refine ⟨rfl, ?_, ?_, ?_⟩
  · show [decDigit (v / 10), decDigit v] = _
    rw [← decDigit_mod_div v 10 1, ← decDigit_mod_mul v 10]
  · show [decDigit (v / 100), decDigit (v / 10), decDigit v] = _
    rw [← decDigit_mod_div v 100 1, ← decDigit_mod_div v 10 10, ← decDigit_mod_mul v 100]
  · show [decDigit (v / 1000), decDigit (v / 100), decDigit (v / 10), decDigit v] = _
    rw [← decDigit_mod_div v 1000 1, ← decDigit_mod_div v 100 10, ← decDigit_mod_div v 10 100, ← decDigit_mod_mul v 1000]

/-- the pinned, pre-repair rendering `str(int(…))` produced fewer than five characters for small values
(witness: value 6531, the input recorded in DESIGN.md §8.1) -/
theorem cvc3_old_short : ∃ v, v < 65536 ∧ (cvc3RenderOld v).length < 5 := ⟨6531, by decide, by decide⟩

example : digits5 804 = ['0', '0', '8', '0', '4'] := by decide

end Pyemv.C11
