import PyemvGen.Mod.kd_derive_visa_sm_sk
import PyemvProps.C13
/-! Generated by lean/mk_source.py (committed). C13 restated about the definitions translated from the
repository's source on this run (`Pyemv.Gen.*`), by the refinement theorem(s) kd_derive_visa_sm_sk. -/
namespace Pyemv.C13.Source
open Spec

theorem visa_sk_key (mk atc k : Bytes) (h : Gen.kd.derive_visa_sm_sk mk atc = .ok k) :
    OddParityKey k := by
  simp only [ModRefines.kd_derive_visa_sm_sk] at *
  exact _root_.Pyemv.C13.visa_sk_key mk atc k h

end Pyemv.C13.Source
