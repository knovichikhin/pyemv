import PyemvGen.Mod.sm_format_iso2
import PyemvGen.Mod.sm_format_vis
import PyemvProps.C15
/-! Generated by lean/mk_source.py (committed). C15 restated about the definitions translated from the
repository's source on this run (`Pyemv.Gen.*`), by the refinement theorem(s) sm_format_iso2, sm_format_vis. -/
namespace Pyemv.C15.Source
open Spec

theorem pin_rejects (p : StrOrBytes) (mk : Bytes) (cur : Option StrOrBytes) (h : p.len < 4 ∨ p.len > 12) :
    Gen.sm.format_iso9564_2_pin_block p = .error .valueError ∧ Gen.sm.format_vis_pin_block mk p cur = .error .valueError := by
  simp only [ModRefines.sm_format_iso2, ModRefines.sm_format_vis]
  exact _root_.Pyemv.C15.pin_rejects p mk cur h

theorem pin_accepts (p : PyStr) (mk : Bytes) (hp : C12.ValidPin p) (hmk : mk.length = 16) :
    (∃ v, Gen.sm.format_iso9564_2_pin_block (.str p) = .ok v) ∧ (∃ v, Gen.sm.format_vis_pin_block mk (.str p) none = .ok v) := by
  simp only [ModRefines.sm_format_iso2, ModRefines.sm_format_vis]
  exact _root_.Pyemv.C15.pin_accepts p mk hp hmk

end Pyemv.C15.Source
