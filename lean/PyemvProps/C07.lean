import PyemvProofs.Tdes
/-! # C07 — enciphered script data decrypts back to exactly the original data -/
namespace Pyemv.C07
open Spec

/-! ### the documented plaintext frames and their inverses -/

/-- Visa: one length byte, the data, then method-2 padding -/
def visaFrame (d : Bytes) : Bytes := Spec.pad2 8 (UInt8.ofNat d.length :: d)
/-- EMV: the data with method-2 padding always applied -/
def emvFrame (d : Bytes) : Bytes := Spec.pad2 8 d
/-- MasterCard: method-2 padded only when the length is not a multiple of 8 -/
def mcFrame (d : Bytes) : Bytes := if d.length % 8 > 0 then Spec.pad2 8 d else d

def unframeVisa (f : Bytes) : Option Bytes :=
  match Spec.unpad2 f with
  | some (l :: d) => if l.toNat = d.length then some d else none
  | _ => none
def unframeEmv (f : Bytes) : Option Bytes := Spec.unpad2 f
/-- the receiver has to know whether the data was block aligned -/
def unframeMc (aligned : Bool) (f : Bytes) : Option Bytes := if aligned then some f else Spec.unpad2 f

/-- Visa = TDES-ECB over the Visa frame (data of up to 255 bytes, what one length byte can express) -/
theorem enc_visa_eq (sk d : Bytes) (hsk : sk.length = 16) (hd : d.length ≤ 255) :
    encryptCommandData sk d .visa = .ok (ecbUpdate (tdesE sk) (visaFrame d)) := by
  simp only [encryptCommandData, hsk, ite_ne_self, toBytesBE_1 d.length (Nat.lt_succ_of_le hd), ok_bind, pad2_eq_spec 8 (by decide),
    encryptTdesEcb_16 sk _ hsk]
  rfl

/-- EMV = TDES-CBC with zero IV over the EMV frame -/
theorem enc_emv_eq (sk d : Bytes) (hsk : sk.length = 16) :
    encryptCommandData sk d .emv = .ok (cbcEncUpdate (tdesE sk) (zeros 8) (emvFrame d)).1 := by
  simp only [encryptCommandData, hsk, ite_ne_self, pad2_eq_spec 8 (by decide), ok_bind,
    encryptTdesCbc_16 sk _ _ hsk (zeros_length 8)]
  rfl

/-- MasterCard = TDES-CBC with zero IV over the MasterCard frame -/
theorem enc_mc_eq (sk d : Bytes) (hsk : sk.length = 16) :
    encryptCommandData sk d .mastercard = .ok (cbcEncUpdate (tdesE sk) (zeros 8) (mcFrame d)).1 := by
  simp only [encryptCommandData, mcFrame, hsk, ite_ne_self]
  split <;> simp only [pad2_eq_spec 8 (by decide), ok_bind, encryptTdesCbc_16 sk _ _ hsk (zeros_length 8)]

/-- an unknown scheme is refused with TypeError (after the key length gate) -/
theorem unknown_scheme_typeerror (sk d : Bytes) (hsk : sk.length = 16) :
    encryptCommandData sk d .other = .error .typeError := by
  simp only [encryptCommandData, hsk, ite_ne_self]
  rfl

/-! ### every frame is a whole number of blocks, and so is its ciphertext -/

theorem mcFrame_length (d : Bytes) : (mcFrame d).length = 8 * ((d.length + 7) / 8) := by
  unfold mcFrame; split
  · rw [Spec.pad2_length_8]; omega
  · omega

theorem frame_lengths (d : Bytes) :
    (visaFrame d).length % 8 = 0 ∧ (emvFrame d).length % 8 = 0 ∧ (mcFrame d).length % 8 = 0 :=
  ⟨(Spec.pad2_length_multiple 8 (by decide) _).1, (Spec.pad2_length_multiple 8 (by decide) _).1,
    mcFrame_length d ▸ Nat.mul_mod_right ..⟩

/-- the ciphertext length is the smallest multiple of 8 that holds the frame -/
theorem ct_length (sk d : Bytes) :
    (ecbUpdate (tdesE sk) (visaFrame d)).length = 8 * ((d.length + 2 + 7) / 8) ∧
    (cbcEncUpdate (tdesE sk) (zeros 8) (emvFrame d)).1.length = 8 * ((d.length + 1 + 7) / 8) ∧
    (cbcEncUpdate (tdesE sk) (zeros 8) (mcFrame d)).1.length = 8 * ((d.length + 7) / 8) :=
  ⟨ecbUpdate_length (tdesE_length sk) _ _ (Spec.pad2_length_8 _), cbcEncUpdate_length (tdesE_length sk) _ _ _ (Spec.pad2_length_8 d),
    cbcEncUpdate_length (tdesE_length sk) _ _ _ (mcFrame_length d)⟩

/-! ### decryption with the same key gives back the frame -/

theorem ecb_decrypts (sk f : Bytes) (h : f.length % 8 = 0) :
    ecbUpdate (tdesD sk) (ecbUpdate (tdesE sk) f) = f :=
  ecbDec_ecb (tdesD_tdesE sk) (tdesE_length sk) (f.length / 8) f (Nat.mul_div_cancel' (Nat.dvd_of_mod_eq_zero h)).symm

theorem cbc_decrypts (sk f : Bytes) (h : f.length % 8 = 0) :
    (cbcDecUpdate (tdesD sk) (zeros 8) (cbcEncUpdate (tdesE sk) (zeros 8) f).1).1 = f :=
  cbcDec_cbcEnc (tdesD_tdesE sk) (tdesE_length sk) (f.length / 8) (zeros 8) f (zeros_length 8)
    (Nat.mul_div_cancel' (Nat.dvd_of_mod_eq_zero h)).symm

/-! ### the data is recovered from the frame -/

theorem unframe_visa (d : Bytes) (hd : d.length ≤ 255) : unframeVisa (visaFrame d) = some d := by
  unfold unframeVisa visaFrame
  rw [Spec.unpad2_pad2]
  simp [UInt8.toNat_ofNat_of_lt' (show d.length < 256 by omega)]

theorem unframe_emv (d : Bytes) : unframeEmv (emvFrame d) = some d := Spec.unpad2_pad2 8 d

/-- MasterCard, partial: recoverable when the receiver knows whether the data was block aligned (as a
card does for a fixed-format 8-byte PIN block) -/
theorem unframe_mc_partial (d : Bytes) : unframeMc (d.length % 8 == 0) (mcFrame d) = some d := by
  unfold unframeMc mcFrame
  by_cases h : d.length % 8 = 0
  · rw [h]; rfl
  · rw [if_neg (mt beq_iff_eq.mp h), if_pos (Nat.pos_of_ne_zero h)]
    exact Spec.unpad2_pad2 8 d

theorem mcFrame_collision : mcFrame [1, 2, 3, 4, 5, 6, 7] = mcFrame [1, 2, 3, 4, 5, 6, 7, 0x80] := by decide

/-- MasterCard, negative: "recovered unambiguously" is false of the scheme as documented — two different
data strings have the same frame, hence the same ciphertext under every key (known finding, DESIGN §8.3) -/
theorem mc_frame_not_injective : ∃ d₁ d₂ : Bytes, d₁ ≠ d₂ ∧ mcFrame d₁ = mcFrame d₂ :=
  ⟨[1, 2, 3, 4, 5, 6, 7], [1, 2, 3, 4, 5, 6, 7, 0x80], by decide, mcFrame_collision⟩

theorem mc_same_ciphertext (sk : Bytes) (hsk : sk.length = 16) :
    encryptCommandData sk [1, 2, 3, 4, 5, 6, 7] .mastercard = encryptCommandData sk [1, 2, 3, 4, 5, 6, 7, 0x80] .mastercard := by
  rw [enc_mc_eq sk _ hsk, enc_mc_eq sk _ hsk, mcFrame_collision]

example : unframeVisa (visaFrame [0xAA, 0x80, 0x00]) = some [0xAA, 0x80, 0x00] := unframe_visa _ (by decide)

end Pyemv.C07
