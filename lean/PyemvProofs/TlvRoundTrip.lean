import PyemvProofs.TlvDecode
/-!
# The grammar and its printer are inverse to each other

`parse ∘ print = id` on well-formed concrete syntax trees (C10 / C18 core), and whatever the grammar
accepts is the serialisation of the well-formed items it returns.  Both rest on one fact about a single
header: `header` succeeds on `r` exactly when `r` begins with a valid tag and a valid length field whose
value fits (`header_print`, `header_sound`).
-/
namespace Pyemv.RoundTrip
open Pyemv.TlvSpec

def printItems : List Item → Bytes
  | [] => []
  | .prim t l v :: more => t ++ l ++ v ++ printItems more
  | .cons t l kids :: more => t ++ l ++ printItems kids ++ printItems more

/-- a tag as the grammar reads it: scanning it consumes exactly its own bytes -/
def ValidTag (t : Bytes) : Prop := tagLen t = some t.length

/-- a length field the decoder accepts for a value of `n` bytes (any form, minimal or not) -/
def ValidLen (si : Bool) (l : Bytes) (n : Nat) : Prop :=
  (∃ b, l = [b] ∧ b.toNat = n ∧ (si = true ∨ b &&& 0x80 = 0)) ∨
  (si = false ∧ ∃ lb bs, l = lb :: bs ∧ lb &&& 0x80 ≠ 0 ∧ (lb &&& 0x7F).toNat = bs.length ∧ fromBE bs = n)

/-- an item the grammar can have read: a valid tag whose bit 6 says what the item is, a length field valid for the size
of the value as it is serialised, and children that are such items themselves -/
inductive WF (si : Bool) : Item → Prop
  | prim {t l v} : ValidTag t → (t.headD 0 &&& 0x20 = 0) → ValidLen si l v.length → WF si (.prim t l v)
  | cons {t l kids} : ValidTag t → (t.headD 0 &&& 0x20 ≠ 0) → (∀ k ∈ kids, WF si k) →
      ValidLen si l (printItems kids).length → WF si (.cons t l kids)

/-- `tagLen` looks at no byte behind the tag it finds -/
theorem tagLen_prefix {p s : Bytes} {n : Nat} (hn : n ≤ p.length) : tagLen (p ++ s) = some n ↔ tagLen p = some n := by
  cases p with
  | nil => exact ⟨fun h => by have := (tagLen_some h).1; simp at hn; omega, nofun⟩
  | cons b0 rest =>
    rw [List.cons_append, tagLen, tagLen]
    split
    · rw [Refine.scanList_append]
      match h : scanList rest 1 with
      | (some m, k) => exact Iff.rfl
      | (none, k) =>
        -- a scan that goes on in `s` ends behind `p`
        refine ⟨fun h2 => ?_, nofun⟩
        have hk := Refine.scanList_none h
        have := (scanList_some (r := s) (n := k) (m := n) (Prod.ext h2 rfl)).1
        rw [List.length_cons] at hn
        omega
    · exact Iff.rfl

theorem lenPart_print {si : Bool} {o1 n : Nat} {tag l body rest : Bytes}
    (h : ValidLen si l body.length) :
    lenPart si o1 n tag (l ++ body ++ rest) = .ok ⟨tag, l, body.length, n + l.length⟩ := by
  rw [List.append_assoc]
  rcases h with ⟨b, rfl, hb, hs⟩ | ⟨rfl, lb, bs, rfl, hlb, hll, hbe⟩
  · have hc : ¬ (b &&& 0x80 != 0 && !si) = true := by rcases hs with rfl | hs <;> simp [*]
    rw [List.cons_append, List.nil_append, lenPart, if_neg hc, hb, List.length_append,
      if_neg (Nat.not_lt.mpr (Nat.le_add_right _ _))]
    rfl
  · have hc : (lb &&& 0x80 != 0 && !false) = true := by simp [hlb]
    rw [List.cons_append, lenPart, if_pos hc]
    dsimp only
    rw [hll, List.take_left' rfl, hbe, List.length_append, List.length_append, Nat.add_sub_cancel_left,
      if_neg (Nat.not_lt.mpr (Nat.le_add_right _ _)), if_neg (Nat.not_lt.mpr (Nat.le_add_right _ _)),
      List.length_cons, Nat.add_assoc, Nat.add_comm 1]

theorem header_print {si : Bool} {base : Nat} {t l body rest : Bytes}
    (ht : ValidTag t) (hl : ValidLen si l body.length) :
    header si base (t ++ l ++ body ++ rest) = .ok ⟨t, l, body.length, t.length + l.length⟩ := by
  rw [header, List.append_assoc, List.append_assoc, ← List.append_assoc l, (tagLen_prefix (Nat.le_refl _)).mpr ht]
  simp only [List.take_left', List.drop_left']
  exact lenPart_print hl

/-- the grammar on one printed object followed by `rest` -/
theorem parseItems_obj {si : Bool} {base : Nat} {t l body rest : Bytes}
    (ht : ValidTag t) (hl : ValidLen si l body.length) :
    parseItems si base (t ++ l ++ body ++ rest) =
      if t.headD 0 &&& 0x20 != 0 then
        match parseItems si (base + (t.length + l.length)) body with
        | .error (e, part) => .error (e, [Item.cons t l part])
        | .ok kids => Refine.push (.cons t l kids) (parseItems si (base + (t.length + l.length) + body.length) rest)
      else Refine.push (.prim t l body) (parseItems si (base + (t.length + l.length) + body.length) rest) := by
  obtain ⟨a, t', rfl⟩ := List.exists_cons_of_ne_nil (List.ne_nil_of_length_pos (tagLen_some ht).1)
  rw [Refine.parseItems_ne (by nofun), header_print ht hl]
  dsimp only
  rw [← List.length_append, ← List.length_append, List.drop_left, List.append_assoc _ body, List.drop_left, List.take_left]
  rfl

/-- **parse ∘ print = id** on well-formed concrete syntax trees, for every accepted length form -/
theorem parse_print' (si : Bool) (items : List Item) : ∀ (base : Nat), (∀ i ∈ items, WF si i) →
    parseItems si base (printItems items) = .ok items := by
  fun_induction printItems items with
  | case1 => intro _ _; exact Refine.parseItems_nil si _
  | case2 t l v more ih =>
    intro base hwf
    cases hwf _ (List.mem_cons_self ..) with
    | prim ht hc hl =>
      rw [parseItems_obj ht hl, hc, ih _ fun i hi => hwf i (List.mem_cons_of_mem _ hi)]
      exact Refine.push_ok ..
  | case3 t l kids more ihk ih =>
    intro base hwf
    cases hwf _ (List.mem_cons_self ..) with
    | cons ht hc hk hl =>
      rw [parseItems_obj ht hl, if_pos (bne_iff_ne.mpr hc), ihk _ hk, ih _ fun i hi => hwf i (List.mem_cons_of_mem _ hi)]
      exact Refine.push_ok ..

theorem parse_print (si : Bool) : ∀ (n : Nat) (items : List Item) (base : Nat),
    (printItems items).length ≤ n → (∀ i ∈ items, WF si i) →
      parseItems si base (printItems items) = .ok items :=
  fun _ items base _ => parse_print' si items base

theorem validTag_take {r : Bytes} {n : Nat} (h : tagLen r = some n) : ValidTag (r.take n) := by
  have hn : (r.take n).length = n := by rw [List.length_take, Nat.min_eq_left (tagLen_some h).2]
  rw [← List.take_append_drop n r] at h
  rw [ValidTag, hn]
  exact (tagLen_prefix (Nat.le_of_eq hn.symm)).mp h

theorem lenPart_sound {si : Bool} {o1 n : Nat} {tag q : Bytes} {hd : Hd} (h : lenPart si o1 n tag q = .ok hd) :
    hd.tag = tag ∧ ValidLen si hd.lenb hd.ln ∧ hd.h = n + hd.lenb.length ∧
      q.take hd.lenb.length = hd.lenb ∧ hd.lenb.length + hd.ln ≤ q.length := by
  obtain ⟨_, _, e, _⟩ | ⟨lb, rest, ll, ln, rfl, e, hle, hform⟩ := lenPart_cases si o1 n tag q
  · rw [e] at h; cases h
  rw [e] at h; cases h
  have htl : (rest.take ll).length = ll := by
    rw [List.length_take, Nat.min_eq_left (Nat.le_trans (Nat.le_add_right ll ln) hle)]
  refine ⟨rfl, ?_, ?_, ?_, ?_⟩
  · obtain ⟨hlb, hs, hll, hln⟩ | ⟨hs, rfl, rfl⟩ := hform
    · exact .inr ⟨hs, lb, _, rfl, hlb, by rw [htl, hll], hln.symm⟩
    · exact .inl ⟨lb, rfl, rfl, hs⟩
  all_goals simp only [List.length_cons, htl, List.take_succ_cons]
  all_goals omega

/-- a region whose header reads as `hd` is a valid tag, a valid length field, the value, and the rest -/
theorem header_sound {si : Bool} {base : Nat} {r : Bytes} {hd : Hd} (hh : header si base r = .ok hd) :
    ValidTag hd.tag ∧ ValidLen si hd.lenb ((r.drop hd.h).take hd.ln).length ∧ hd.tag.headD 0 = r.headD 0 ∧
      r = hd.tag ++ hd.lenb ++ (r.drop hd.h).take hd.ln ++ r.drop (hd.h + hd.ln) := by
  have ⟨hh2, hh3⟩ := header_ok hh
  unfold header at hh
  cases htl : tagLen r with
  | none => rw [htl] at hh; cases hh
  | some tn =>
    rw [htl] at hh
    obtain ⟨e1, vl, eh, etake, elen⟩ := lenPart_sound hh
    have hvlen : ((r.drop hd.h).take hd.ln).length = hd.ln := by
      rw [List.length_take, List.length_drop, Nat.min_eq_left (by omega)]
    refine ⟨e1 ▸ validTag_take htl, by rw [hvlen]; exact vl, ?_, ?_⟩
    · obtain ⟨k, rfl⟩ := Nat.exists_eq_add_of_lt (tagLen_some htl).1
      rw [e1]
      cases r <;> rfl
    · rw [e1, ← etake, eh, List.append_assoc, List.append_assoc, ← List.drop_drop, ← List.drop_drop,
        ← List.drop_drop, List.take_append_drop, List.take_append_drop, List.take_append_drop]

/-- **soundness**: whatever the grammar accepts is exactly the serialisation of the items it returns, and
every item is well-formed -/
theorem parse_sound' (si : Bool) (base : Nat) (r : Bytes) : ∀ (items : List Item),
    parseItems si base r = .ok items → r = printItems items ∧ ∀ i ∈ items, WF si i := by
  fun_induction parseItems si base r with
  | case1 => intro _ h; cases h; exact ⟨by simp [printItems], by simp⟩
  | case2 | case3 | case4 | case6 => nofun
  | case5 base r _ hd hh val rest hc kids hk more hm ihk ihm =>
    intro _ h; cases h
    obtain ⟨hvt, hvl, hhead, hsplit⟩ := header_sound hh
    obtain ⟨pk, wk⟩ := ihk kids hk
    obtain ⟨pm, wm⟩ := ihm more hm
    refine ⟨by rw [printItems, ← pk, ← pm]; exact hsplit, List.forall_mem_cons.mpr ⟨.cons hvt ?_ wk (pk ▸ hvl), wm⟩⟩
    rw [hhead]; simpa using hc
  | case7 base r _ hd hh val rest hc more hm ihm =>
    intro _ h; cases h
    obtain ⟨hvt, hvl, hhead, hsplit⟩ := header_sound hh
    obtain ⟨pm, wm⟩ := ihm more hm
    refine ⟨by rw [printItems, ← pm]; exact hsplit, List.forall_mem_cons.mpr ⟨.prim hvt ?_ hvl, wm⟩⟩
    rw [hhead]; simpa using hc

theorem parse_sound (si : Bool) : ∀ (n : Nat) (r : Bytes) (base : Nat) (items : List Item), r.length ≤ n →
    parseItems si base r = .ok items → r = printItems items ∧ ∀ i ∈ items, WF si i :=
  fun _ r base items _ => parse_sound' si base r items

end Pyemv.RoundTrip
