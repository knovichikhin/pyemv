import PyemvProofs.Kat
/-!
# Known answers, checked by the kernel

These are **tests, not theorems about all inputs**: the published DES and SHA-1 vectors and every worked example
in pyemv's own docstrings, evaluated on the hand-written model (the quicker ones here; the rest in `PyemvKat/`, built by the thorough tier) inside Lean's kernel (`decide +kernel`, no
compiler).  A vector that goes through DES or SHA-1 is first rewritten by `simp only [kat]`, which unfolds the model
down to `Des.crypt`, `Des.subkeys` and `Sha1.processBlock` and puts for them the twins of `PyemvProofs/DesFast` and
`PyemvProofs/Sha1Fast`, proved equal to them and much quicker in the kernel; the
statement stays one about the model, and no axiom is used besides Lean's standard three, on which those proofs
rest (core's lemmas on bits and on `for` over a range).  They anchor the modelled primitives — whose equality with OpenSSL / hashlib is otherwise
only tested by the correspondence leg — to values that are written down outside this repository, and they pin the
model to the library's documented outputs independently of the Python harness.
-/
namespace Pyemv.KnownAnswers

/-- the value of a successful call (`[]` for an exception, which none of the expected values is) -/
def val {α} [Inhabited α] : R α → α
  | .ok v => v
  | .error _ => default

/-- the classic DES worked example (key 133457799BBCDFF1) -/
example : Des.enc 0x133457799BBCDFF1 0x0123456789ABCDEF = 0x85E813540F0AB405 := by simp only [kat]; decide +kernel

/-- NBS / FIPS 81 sample ("Now is t") -/
example : Des.enc 0x0123456789ABCDEF 0x4E6F772069732074 = 0x3FA40E8A984D4815 := by simp only [kat]; decide +kernel

/-- FIPS 180 SHA-1("abc") -/
example : Sha1.sha1 [0x61, 0x62, 0x63] = [0xA9, 0x99, 0x3E, 0x36, 0x47, 0x06, 0x81, 0x6A, 0xBA, 0x3E, 0x25, 0x71, 0x78, 0x50, 0xC2, 0x6C, 0x9C, 0xD0, 0xD8, 0x9D] := by simp only [kat]; decide +kernel

/-- tools.adjust_key_parity docstring -/
example : val (pure (adjustKeyParity [0x1A, 0x2B, 0x3C, 0x4D, 0x5F, 0x0A, 0x1B, 0x2C, 0x4D, 0x5F, 0x6A, 0x7B, 0x8C, 0x9D, 0x0F, 0x1A])) = [0x1A, 0x2A, 0x3D, 0x4C, 0x5E, 0x0B, 0x1A, 0x2C, 0x4C, 0x5E, 0x6B, 0x7A, 0x8C, 0x9D, 0x0E, 0x1A] := by decide +kernel

/-- tools.encrypt_tdes_cbc docstring -/
example : val (encryptTdesCbc [0x01, 0x23, 0x45, 0x67, 0x89, 0xAB, 0xCD, 0xEF, 0xFE, 0xDC, 0xBA, 0x98, 0x76, 0x54, 0x32, 0x10] [0x00, 0x00, 0x00, 0x00, 0x00, 0x00, 0x00, 0x00] [0x31, 0x32, 0x33, 0x34, 0x35, 0x36, 0x37, 0x38]) = [0x41, 0xD2, 0xFF, 0xBA, 0x3C, 0xDC, 0x15, 0xFE] := by simp only [kat]; decide +kernel

/-- tools.encrypt_tdes_ecb docstring -/
example : val (encryptTdesEcb [0x01, 0x23, 0x45, 0x67, 0x89, 0xAB, 0xCD, 0xEF, 0xFE, 0xDC, 0xBA, 0x98, 0x76, 0x54, 0x32, 0x10] [0x31, 0x32, 0x33, 0x34, 0x35, 0x36, 0x37, 0x38]) = [0x41, 0xD2, 0xFF, 0xBA, 0x3C, 0xDC, 0x15, 0xFE] := by simp only [kat]; decide +kernel

/-- tools.key_check_digits docstring -/
example : val (keyCheckDigits [0x01, 0x23, 0x45, 0x67, 0x89, 0xAB, 0xCD, 0xEF, 0xFE, 0xDC, 0xBA, 0x98, 0x76, 0x54, 0x32, 0x10] 2) = [0x08, 0xD7] := by simp only [kat]; decide +kernel

/-- ac module docstring: ARPC method 1 -/
example : val (generateArpc1 [0x29, 0xB3, 0x31, 0x80, 0xE5, 0x67, 0xCE, 0x38, 0xEA, 0x4C, 0xBC, 0x9D, 0x75, 0x3B, 0x0E, 0x61] [0xFA, 0x62, 0x42, 0x50, 0xB0, 0x08, 0xB5, 0x9A] [0x00, 0x00]) = [0x45, 0xD4, 0x25, 0x5E, 0xEF, 0x10, 0xC9, 0x20] := by simp only [kat]; decide +kernel

/-- ac.generate_arpc_1 docstring -/
example : val (generateArpc1 [0xAA, 0xAA, 0xAA, 0xAA, 0xAA, 0xAA, 0xAA, 0xAA, 0xBB, 0xBB, 0xBB, 0xBB, 0xBB, 0xBB, 0xBB, 0xBB] [0x12, 0x34, 0x56, 0x78, 0x90, 0xAB, 0xCD, 0xEF] [0x00, 0x00]) = [0xF5, 0xE6, 0xF4, 0x41, 0x47, 0xE2, 0xF1, 0xB0] := by simp only [kat]; decide +kernel

/-- kd module docstring: option A, 17-digit PAN -/
example : val (deriveIccMkA [0x01, 0x23, 0x45, 0x67, 0x89, 0xAB, 0xCD, 0xEF, 0xFE, 0xDC, 0xBA, 0x98, 0x76, 0x54, 0x32, 0x10] (.str ['9', '9', '0', '1', '2', '3', '4', '5', '6', '7', '8', '9', '0', '1', '2', '3', '4']) (some (.str ['4', '5']))) = [0x67, 0xF8, 0x29, 0x23, 0x58, 0x08, 0x3E, 0x5E, 0xA7, 0xAB, 0x7F, 0xDA, 0x58, 0xD5, 0x3B, 0x6B] := by simp only [kat]; decide +kernel

/-- kd.derive_common_sk docstring -/
example : val (deriveCommonSk [0x01, 0x23, 0x45, 0x67, 0x89, 0xAB, 0xCD, 0xEF, 0xFE, 0xDC, 0xBA, 0x98, 0x76, 0x54, 0x32, 0x10] [0x00, 0x1C, 0x00, 0x00, 0x00, 0x00, 0x00, 0x00]) = [0xE9, 0xFB, 0x38, 0x4A, 0xF8, 0x07, 0xB9, 0x40, 0xFE, 0xDC, 0xEA, 0x61, 0x34, 0x61, 0xB0, 0xC4] := by simp only [kat]; decide +kernel

/-- kd.derive_visa_sm_sk docstring -/
example : val (deriveVisaSmSk [0x01, 0x23, 0x45, 0x67, 0x89, 0xAB, 0xCD, 0xEF, 0xFE, 0xDC, 0xBA, 0x98, 0x76, 0x54, 0x32, 0x10] [0x00, 0x1C]) = [0x01, 0x23, 0x45, 0x67, 0x89, 0xAB, 0xCD, 0xF2, 0xFE, 0xDC, 0xBA, 0x98, 0x76, 0x54, 0xCD, 0xF2] := by decide +kernel

/-- sm module docstring: enciphered PIN block (EMV scheme) -/
example : val (encryptCommandData [0x01, 0x23, 0x45, 0x67, 0x89, 0xAB, 0xCD, 0xEF, 0xFE, 0xDC, 0xBA, 0x98, 0x76, 0x54, 0x32, 0x10] [0x24, 0x99, 0x99, 0xFF, 0xFF, 0xFF, 0xFF, 0xFF] .emv) = [0x5A, 0x86, 0x2D, 0x13, 0x81, 0xCC, 0xB9, 0x48, 0x22, 0xCF, 0xDD, 0x70, 0x6A, 0x37, 0x61, 0x78] := by simp only [kat]; decide +kernel

/-- sm.encrypt_command_data docstring (MasterCard scheme) -/
example : val (encryptCommandData [0x01, 0x23, 0x45, 0x67, 0x89, 0xAB, 0xCD, 0xEF, 0xFE, 0xDC, 0xBA, 0x98, 0x76, 0x54, 0x32, 0x10] [0x24, 0x12, 0x34, 0xFF, 0xFF, 0xFF, 0xFF, 0xFF] .mastercard) = [0x98, 0x59, 0x24, 0x0A, 0xE5, 0x28, 0x20, 0xC3] := by simp only [kat]; decide +kernel

/-- sm.format_iso9564_2_pin_block docstring -/
example : val (formatIso2PinBlock (.str ['1', '2', '3', '4', '5', '6', '7', '8', '9', '0', '1', '2'])) = [0x2C, 0x12, 0x34, 0x56, 0x78, 0x90, 0x12, 0xFF] := by decide +kernel

/-- sm.format_vis_pin_block docstring -/
example : val (formatVisPinBlock [0x01, 0x23, 0x45, 0x67, 0x89, 0xAB, 0xCD, 0xEF, 0xFE, 0xDC, 0xBA, 0x98, 0x76, 0x54, 0x32, 0x10] (.str ['1', '2', '3', '4']) none) = [0x04, 0x12, 0x34, 0xFF, 0x76, 0x54, 0x32, 0x10] := by decide +kernel

end Pyemv.KnownAnswers
