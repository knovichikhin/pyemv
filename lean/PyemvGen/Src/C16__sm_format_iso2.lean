import PyemvGen.Mod.sm_format_iso2
import PyemvProps.C16
/-! Generated by lean/mk_source.py (committed). C16 restated about the definitions translated from the
repository's source on this run (`Pyemv.Gen.*`), by the refinement theorem(s) sm_format_iso2. -/
namespace Pyemv.C16.Source
open Spec

theorem iso2_forms (a b : StrOrBytes) (h : SameText a b) :
    Gen.sm.format_iso9564_2_pin_block a = Gen.sm.format_iso9564_2_pin_block b := by
  simp only [ModRefines.sm_format_iso2]
  exact _root_.Pyemv.C16.iso2_forms a b h

end Pyemv.C16.Source
