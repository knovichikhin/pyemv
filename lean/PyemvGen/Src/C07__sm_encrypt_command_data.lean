import PyemvGen.Mod.sm_encrypt_command_data
import PyemvProps.C07
/-! Generated by lean/mk_source.py (committed). C07 restated about the definitions translated from the
repository's source on this run (`Pyemv.Gen.*`), by the refinement theorem(s) sm_encrypt_command_data. -/
namespace Pyemv.C07.Source
open Spec

theorem enc_visa_eq (sk d : Bytes) (hsk : sk.length = 16) (hd : d.length ≤ 255) :
    Gen.sm.encrypt_command_data sk d .visa = .ok (ecbUpdate (tdesE sk) (visaFrame d)) := by
  simp only [ModRefines.sm_encrypt_command_data]
  exact _root_.Pyemv.C07.enc_visa_eq sk d hsk hd

theorem enc_emv_eq (sk d : Bytes) (hsk : sk.length = 16) :
    Gen.sm.encrypt_command_data sk d .emv = .ok (cbcEncUpdate (tdesE sk) (zeros 8) (emvFrame d)).1 := by
  simp only [ModRefines.sm_encrypt_command_data]
  exact _root_.Pyemv.C07.enc_emv_eq sk d hsk

theorem enc_mc_eq (sk d : Bytes) (hsk : sk.length = 16) :
    Gen.sm.encrypt_command_data sk d .mastercard = .ok (cbcEncUpdate (tdesE sk) (zeros 8) (mcFrame d)).1 := by
  simp only [ModRefines.sm_encrypt_command_data]
  exact _root_.Pyemv.C07.enc_mc_eq sk d hsk

theorem unknown_scheme_typeerror (sk d : Bytes) (hsk : sk.length = 16) :
    Gen.sm.encrypt_command_data sk d .other = .error .typeError := by
  simp only [ModRefines.sm_encrypt_command_data]
  exact _root_.Pyemv.C07.unknown_scheme_typeerror sk d hsk

theorem mc_same_ciphertext (sk : Bytes) (hsk : sk.length = 16) :
    Gen.sm.encrypt_command_data sk [1, 2, 3, 4, 5, 6, 7] .mastercard = Gen.sm.encrypt_command_data sk [1, 2, 3, 4, 5, 6, 7, 0x80] .mastercard := by
  simp only [ModRefines.sm_encrypt_command_data]
  exact _root_.Pyemv.C07.mc_same_ciphertext sk hsk

end Pyemv.C07.Source
