import PyemvProofs.TlvRefine
import PyemvProofs.TlvDict
/-!
# The decoders are functions of the parse

One induction over the fuel of the offset-and-limit loop relates *both* decoders (`decodeSeq`, and
`decodeSeqC` with its conversion function and call log) to the structural grammar on the same region
(`Runs`).  Totality, refinement, the call log and naturality are read off it.
-/
namespace Pyemv.Refine
open Pyemv.Tlv Pyemv.TlvSpec

/-- a finished object in front of the parse of what follows it -/
def push (i : Item) : Except (GErr × List Item) (List Item) → Except (GErr × List Item) (List Item)
  | .error (e, part) => .error (e, i :: part)
  | .ok more => .ok (i :: more)

theorem push_ok (i : Item) (more : List Item) : push i (.ok more) = .ok (i :: more) := rfl

theorem push_error (i : Item) (e : GErr) (part : List Item) : push i (.error (e, part)) = .error (e, i :: part) := rfl

theorem parseItems_nil (si : Bool) (base : Nat) : parseItems si base [] = .ok [] := by
  rw [parseItems]; simp

theorem parseItems_ne {si : Bool} {base : Nat} {r : Bytes} (hr : r ≠ []) :
    parseItems si base r =
      match header si base r with
      | .error e => .error (e, [])
      | .ok hd =>
        if (r.headD 0) &&& 0x20 != 0 then
          match parseItems si (base + hd.h) ((r.drop hd.h).take hd.ln) with
          | .error (e, part) => .error (e, [Item.cons hd.tag hd.lenb part])
          | .ok kids => push (.cons hd.tag hd.lenb kids) (parseItems si (base + hd.h + hd.ln) (r.drop (hd.h + hd.ln)))
        else push (.prim hd.tag hd.lenb ((r.drop hd.h).take hd.ln))
          (parseItems si (base + hd.h + hd.ln) (r.drop (hd.h + hd.ln))) := by
  rw [parseItems]
  simp only [hr, dite_false]
  split <;> rename_i heq <;> rw [heq] <;> rfl

theorem absInto_nil (fl : Bool) (dec : Dict) : absInto fl dec [] = dec := by
  cases fl <;> simp [absInto, absFlat, absNested]

theorem absInto_cons (fl : Bool) (dec : Dict) (i : Item) (more : List Item) :
    absInto fl dec (i :: more) = absInto fl (absInto fl dec [i]) more := by
  cases fl <;> cases i <;> simp [absInto, absFlat, absNested]

theorem absInto_prim (fl : Bool) (dec : Dict) (t l v : Bytes) :
    absInto fl dec [.prim t l v] = dec.set t (.prim v) := by
  cases fl <;> simp [absInto, absFlat, absNested]

theorem absInto_nested (dec : Dict) (t l : Bytes) (kids : List Item) :
    absInto false dec [.cons t l kids] = dec.set t (.cons (absInto false [] kids)) := by
  simp [absInto, absNested]

theorem absInto_flat (dec : Dict) (t l : Bytes) (kids : List Item) :
    absInto true dec [.cons t l kids] = absInto true dec kids := by
  simp [absInto, absFlat]

/-- the primitive objects of a CST at every depth, in input order -/
def prims : List Item → Log
  | [] => []
  | .prim t _ v :: more => (t, v) :: prims more
  | .cons _ _ kids :: more => prims kids ++ prims more

theorem prims_nil : prims [] = [] := by rw [prims]

theorem prims_prim (t l v : Bytes) : prims [.prim t l v] = [(t, v)] := by rw [prims, prims_nil]

theorem prims_template (t l : Bytes) (kids : List Item) : prims [.cons t l kids] = prims kids := by
  rw [prims, prims_nil, List.append_nil]

theorem prims_cons (i : Item) (more : List Item) : prims (i :: more) = prims [i] ++ prims more := by
  cases i <;> simp [prims]

/-- the flattened result is the map of all primitive objects at every depth in input order, the last
occurrence winning -/
theorem absFlat_eq_prims (items : List Item) : ∀ (dec : Dict),
    absFlat dec items = (prims items).foldl (fun d p => d.set p.1 (.prim p.2)) dec := by
  intro dec
  fun_induction absFlat dec items with
  | case1 dec => simp [prims]
  | case2 dec t l v more ih => rw [ih]; simp [prims]
  | case3 dec t l kids more ihk ih => rw [ih, ihk]; simp [prims, List.foldl_append]

/-! ### the converted tree is the plain tree mapped through the conversion -/

mutual
def mapNode {α} (conv : Bytes → Bytes → α) (k : Bytes) : Node → NodeC α
  | .prim v => .prim (conv k v)
  | .cons kids => .cons (mapDict conv kids)
def mapPair {α} (conv : Bytes → Bytes → α) : Bytes × Node → Bytes × NodeC α
  | (k, n) => (k, mapNode conv k n)
def mapDict {α} (conv : Bytes → Bytes → α) : List (Bytes × Node) → DictC α
  | [] => []
  | p :: rest => mapPair conv p :: mapDict conv rest
end

theorem mapDict_eq_map {α} (conv : Bytes → Bytes → α) (d : Dict) : mapDict conv d = d.map (mapPair conv) := by
  induction d with
  | nil => simp [mapDict]
  | cons p rest ih => simp [mapDict, ih]

theorem mapDict_set {α} (conv : Bytes → Bytes → α) (d : Dict) (k : Bytes) (v : Node) :
    mapDict conv (d.set k v) = DictC.set (mapDict conv d) k (mapNode conv k v) := by
  rw [mapDict_eq_map, mapDict_eq_map, Dict.set_eq, DictC.set_eq, map_assign (f := mapPair conv) fun (_, _) => rfl]
  rfl

/-- what the plain decoder `r` and the converting decoder `rc`, started on a region with dictionary `dec`
(`mapDict conv dec` for `rc`) and call log `log`, return when the grammar's parse of the region is `p` -/
def Runs {α} (conv : Bytes → Bytes → α) (fl : Bool) (data : Bytes) (lim : Nat) (dec : Dict) (log : Log)
    (r : Res) (rc : ResC α) : Except (GErr × List Item) (List Item) → Prop
  | .ok items => r = .ok lim (absInto fl dec items) ∧
      rc = .ok lim (mapDict conv (absInto fl dec items)) (log ++ prims items)
  | .error (g, part) => ∃ tag, TagRel data g ⟨g.kind, tag, g.ofs⟩ ∧
      r = .err ⟨g.kind, tag, g.ofs⟩ (absInto fl dec part) ∧
      rc = .err ⟨g.kind, tag, g.ofs⟩ (mapDict conv (absInto fl dec part)) (log ++ prims part)

/-- a run that continues behind a finished item `i`, from the dictionary and the log that `i` leaves -/
theorem Runs.push {α} {conv : Bytes → Bytes → α} {fl data lim dec log r rc i p}
    (h : Runs conv fl data lim (absInto fl dec [i]) (log ++ prims [i]) r rc p) :
    Runs conv fl data lim dec log r rc (push i p) := by
  match p with
  | .ok more | .error (g, part) => simpa only [push_ok, push_error, Runs, ← absInto_cons, List.append_assoc, ← prims_cons] using h

/-- **Both decoders compute what the grammar defines** (C09 / C17 / C18 core): on any region of the input,
from any dictionary and log, with fuel exceeding the region.  On success: the end of the region, the fold of
the items, the log extended by their primitives.  On failure: the grammar's fault kind and offset, a tag
related as `TagRel` states, the fold and the primitives of what was completed or opened before the fault. -/
theorem decodeSeq_runs {α} (conv : Bytes → Bytes → α) (fl si : Bool) (data : Bytes) :
    ∀ (fuel ofs lim : Nat) (dec : Dict) (log : Log), lim ≤ data.length → ofs ≤ lim → lim < ofs + fuel →
      Runs conv fl data lim dec log (decodeSeq fl si data fuel ofs lim dec)
        (decodeSeqC conv fl si data fuel ofs lim (mapDict conv dec) log) (parseItems si ofs (slice data ofs lim)) := by
  intro fuel
  induction fuel with
  | zero => intro ofs lim dec log _ _ h; omega
  | succ f ih =>
    intro ofs lim dec log hl ho hf
    unfold decodeSeq decodeSeqC
    by_cases hlt : ofs < lim
    · -- each test of the loop stands once in either decoder (the constructed bit also in the grammar)
      rw [if_neg (not_not_intro hlt), if_neg (not_not_intro hlt)]
      have hH := readHeader_refines (simple := si) hl hlt
      rw [parseItems_ne (List.ne_nil_of_length_pos (by rw [slice_length hl]; omega))]
      cases hh : header si ofs (slice data ofs lim) with
      | error g =>
        obtain ⟨tag, hrh, hrel⟩ := hH.err hh
        simp only [hrh]
        exact ⟨tag, hrel, by rw [absInto_nil], by rw [absInto_nil, prims_nil, List.append_nil]⟩
      | ok hd =>
        replace hH := hH.ok hh
        have ⟨h2, h3⟩ := readHeader_ok hH
        simp only [hH, slice_drop, slice_take h3, ← Nat.add_assoc]
        -- the object's value is the region `[vo, ve)`; what follows it is `[ve, lim)`
        generalize hvo : ofs + hd.h = vo at *
        generalize hve : vo + hd.ln = ve at *
        have hm : vo ≤ ve ∧ ve < vo + f ∧ lim < ve + f := by omega
        have kids := fun d l => ih vo ve d l (Nat.le_trans h3 hl) hm.1 hm.2.1
        have rest := fun d l => ih ve lim d l hl h3 hm.2.2
        have hsetP := fun v => mapDict_set conv dec hd.tag (.prim v)
        have hsetC := fun ks => mapDict_set conv dec hd.tag (.cons ks)
        simp only [mapNode] at hsetP hsetC
        by_cases hc : ((slice data ofs lim).headD 0 &&& 0x20 != 0) = true
        · rw [if_pos hc, if_pos hc, if_pos hc]
          -- the children are folded into an empty dictionary that is then kept under the tag, or, when
          -- flattening, into `dec` itself; a fault among them is reported from what they had filled by then
          cases fl with
          | false =>
            rw [if_neg Bool.false_ne_true, if_neg Bool.false_ne_true]
            have hk := kids [] log
            simp only [mapDict] at hk
            generalize parseItems si vo (slice data vo ve) = pk at hk ⊢
            match pk, hk with
            | .error (g, part), ⟨tag, hrel, e1, e2⟩ =>
              simp only [e1, e2, ← hsetC]
              exact ⟨tag, hrel, by rw [absInto_nested], by rw [absInto_nested, prims_template]⟩
            | .ok ks, ⟨e1, e2⟩ =>
              simp only [e1, e2, ← hsetC]
              refine Runs.push ?_
              simp only [absInto_nested, prims_template]
              exact rest _ _
          | true =>
            rw [if_pos rfl, if_pos rfl]
            have hk := kids dec log
            generalize parseItems si vo (slice data vo ve) = pk at hk ⊢
            match pk, hk with
            | .error (g, part), ⟨tag, hrel, e1, e2⟩ =>
              simp only [e1, e2]
              exact ⟨tag, hrel, by rw [absInto_flat], by rw [absInto_flat, prims_template]⟩
            | .ok ks, ⟨e1, e2⟩ =>
              simp only [e1, e2]
              refine Runs.push ?_
              simp only [absInto_flat, prims_template]
              exact rest _ _
        · rw [if_neg hc, if_neg hc, if_neg hc, ← hsetP]
          refine Runs.push ?_
          simp only [absInto_prim, prims_prim]
          exact rest _ _
    · cases Nat.le_antisymm ho (Nat.le_of_not_lt hlt)
      rw [if_pos hlt, if_pos hlt, slice_nil (Nat.le_refl _), parseItems_nil]
      exact ⟨by rw [absInto_nil], by rw [absInto_nil, prims_nil, List.append_nil]⟩

theorem decode_runs {α} (conv : Bytes → Bytes → α) (fl si : Bool) (data : Bytes) :
    Runs conv fl data data.length [] [] (decode fl si data) (decodeC conv fl si data) (parseItems si 0 data) := by
  have h := decodeSeq_runs conv fl si data (data.length + 1) 0 data.length [] [] (Nat.le_refl _) (Nat.zero_le _) (by omega)
  rwa [show slice data 0 data.length = data by simp [slice]] at h

/-- reading `Runs` off: a fact about the two results and the parse holds if it holds of what each parse determines -/
theorem Runs.elim {α} {conv : Bytes → Bytes → α} {fl data lim dec log r rc p}
    {P : Res → ResC α → Except (GErr × List Item) (List Item) → Prop} (h : Runs conv fl data lim dec log r rc p)
    (ok : ∀ items, P (.ok lim (absInto fl dec items)) (.ok lim (mapDict conv (absInto fl dec items)) (log ++ prims items))
      (.ok items))
    (err : ∀ g part tag, TagRel data g ⟨g.kind, tag, g.ofs⟩ →
      P (.err ⟨g.kind, tag, g.ofs⟩ (absInto fl dec part))
        (.err ⟨g.kind, tag, g.ofs⟩ (mapDict conv (absInto fl dec part)) (log ++ prims part)) (.error (g, part))) :
    P r rc p := by
  match p, h with
  | .ok items, ⟨e1, e2⟩ => rw [e1, e2]; exact ok items
  | .error (g, part), ⟨tag, rel, e1, e2⟩ => rw [e1, e2]; exact err g part tag rel

theorem decode_of_parse {fl si : Bool} {data : Bytes} {items : List Item} (h : parseItems si 0 data = .ok items) :
    decode fl si data = .ok data.length (absInto fl [] items) := by
  -- `Runs` speaks of both decoders; for the plain one alone any conversion will do, and `fun _ _ => ()` is the least
  have hr := decode_runs (fun _ _ => ()) fl si data
  rw [h] at hr
  exact hr.1

/-- the statement of C09/C17 about the plain decoder: a tree at the end of the region that is the fold of the parse,
or the grammar's fault with its offset, its completed part and a tag in `TagRel` -/
def Refines (fl : Bool) (data : Bytes) (lim : Nat) (dec : Dict) :
    Res → Except (GErr × List Item) (List Item) → Prop
  | .ok o d, .ok items => o = lim ∧ d = absInto fl dec items
  | .err e d, .error (g, part) => e.kind = g.kind ∧ e.ofs = g.ofs ∧ d = absInto fl dec part ∧ TagRel data g e
  | _, _ => False

/-- Top level: `pyemv.tlv.decode` (model) refines the grammar on the whole input. -/
theorem decode_refines (fl si : Bool) (data : Bytes) :
    Refines fl data data.length [] (Tlv.decode fl si data) (parseItems si 0 data) :=
  (decode_runs (fun _ _ => ()) fl si data).elim (P := fun r _ p => Refines fl data data.length [] r p)
    (fun _ => ⟨rfl, rfl⟩) (fun _ _ _ rel => ⟨rfl, rfl, rfl, rel⟩)

/-- outcome relation between the plain decoder and the converting decoder -/
def SimRel {α} (conv : Bytes → Bytes → α) : Res → ResC α → Prop
  | .ok o d, .ok o' d' _ => o = o' ∧ d' = mapDict conv d
  | .err e d, .err e' d' _ => e.kind = e'.kind ∧ e.tag = e'.tag ∧ e.ofs = e'.ofs ∧ d' = mapDict conv d
  | .crash _, .crash => True
  | .fuel, .fuel => True
  | _, _ => False

/-- **naturality**: decoding with a conversion function gives the plain result mapped through it
(same success/failure, same offset and error, dictionaries related by `mapDict`) -/
theorem decodeC_sim {α} (conv : Bytes → Bytes → α) (fl si : Bool) (data : Bytes) :
    SimRel conv (decode fl si data) (decodeC conv fl si data) :=
  (decode_runs conv fl si data).elim (P := fun r rc _ => SimRel conv r rc)
    (fun _ => ⟨rfl, rfl⟩) (fun _ _ _ _ => ⟨rfl, rfl, rfl, rfl⟩)

end Pyemv.Refine

namespace Pyemv.Tlv

/-- C09, totality half: for every byte string and every option combination the decoder terminates
with a tree or a DecodeError - never another exception. -/
theorem decode_total (flatten simple : Bool) (data : Bytes) :
    (∃ d, decode flatten simple data = .ok data.length d) ∨ (∃ e d, decode flatten simple data = .err e d) :=
  (Refine.decode_runs (fun _ _ => ()) flatten simple data).elim
    (P := fun r _ _ => (∃ d, r = .ok data.length d) ∨ ∃ e d, r = .err e d)
    (fun _ => .inl ⟨_, rfl⟩) (fun _ _ _ _ => .inr ⟨_, _, rfl⟩)

end Pyemv.Tlv
