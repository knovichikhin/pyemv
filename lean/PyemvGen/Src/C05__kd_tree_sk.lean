import PyemvGen.Mod.kd_tree_sk
import PyemvProps.C05
/-! Generated by lean/mk_source.py (committed). C05 restated about the definitions translated from the
repository's source on this run (`Pyemv.Gen.*`), by the refinement theorem(s) kd_tree_sk. -/
namespace Pyemv.C05.Source
open Spec

theorem tree_sk_eq_spec (mk atc iv : Bytes) (b H : Nat) (hmk : mk.length = 16) (ha : atc.length = 2)
    (hiv : iv.length = 16) (hb : 0 < b) (hg : b ^ (H + 1) > 65535) :
    Gen.kd.derive_emv2000_tree_sk mk atc (H + 1) b iv =
      .ok (adjustKeyParity (Tree.skSpec phi b mk iv xorB H (fromBE atc))) := by
  simp only [ModRefines.kd_tree_sk]
  exact _root_.Pyemv.C05.tree_sk_eq_spec mk atc iv b H hmk ha hiv hb hg

theorem gate_iff (mk atc iv : Bytes) (b H : Nat) (hmk : mk.length = 16) (ha : atc.length = 2)
    (hiv : iv.length = 16) (hb : 0 < b) :
    (∃ k, Gen.kd.derive_emv2000_tree_sk mk atc (H + 1) b iv = .ok k) ↔ b ^ (H + 1) > 65535 := by
  simp only [ModRefines.kd_tree_sk]
  exact _root_.Pyemv.C05.gate_iff mk atc iv b H hmk ha hiv hb

theorem gate_rejects (mk atc iv : Bytes) (b h : Nat) (hmk : mk.length = 16) (ha : atc.length = 2)
    (hiv : iv.length = 16) (hsmall : b ^ h ≤ 65535) :
    Gen.kd.derive_emv2000_tree_sk mk atc h b iv = .error .valueError := by
  simp only [ModRefines.kd_tree_sk]
  exact _root_.Pyemv.C05.gate_rejects mk atc iv b h hmk ha hiv hsmall

end Pyemv.C05.Source
