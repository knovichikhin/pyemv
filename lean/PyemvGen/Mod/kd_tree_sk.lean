import PyemvGen.Mod.Common
import PyemvProps.C05
import PyemvGen.Mod.kd_tree_walk
import PyemvGen.Mod.kd_tree_derive
import PyemvGen.Mod.tools_xor
import PyemvGen.Mod.tools_adjust
namespace Pyemv.ModRefines
open Pyemv.Gen

theorem kd_tree_sk (mk atc : Bytes) (h b : Nat) (iv : Bytes) :
    Gen.kd.derive_emv2000_tree_sk mk atc h b iv = deriveEmv2000TreeSk mk atc h b iv := by
  unfold Gen.kd.derive_emv2000_tree_sk deriveEmv2000TreeSk
  simp only [kd_tree_walk, kd_tree_derive, tools_xor, tools_adjust, pyDiv_bind, throw_eq, pure_eq_ok, ok_bind, error_bind,
    bind_ok]
  -- what follows is for rewritten sources only.  A tree without branches or without levels has at most one key: an
  -- explicit "must be positive" guard in front of the gate refuses nothing the gate does not refuse
  all_goals
    have hz : b = 0 → b ^ h ≤ 65535 := fun e => by subst e; cases h <;> simp
    have hh0 : h = 0 → b ^ h ≤ 65535 := fun e => by subst e; simp
    repeat (first | rfl | split)
    -- as `same_guards`, with the two facts above for a branch whose guards say `b = 0` or `h = 0` past the gate
    all_goals first
      | (simp_all; done)
      | (exfalso; first
          | exact ‹¬ b ^ h ≤ 65535› (hz ‹b = 0›)
          | exact ‹¬ b ^ h ≤ 65535› (hh0 ‹h = 0›)
          | omega)
      | slice_forms

/-- **C05 about the translated source**: accepted parameters give the Annex A1.3 tree key, and exactly the
parameters with `b^H > 65535` are accepted. -/
theorem source_tree_sk (mk atc iv : Bytes) (b H : Nat) (hmk : mk.length = 16) (ha : atc.length = 2)
    (hiv : iv.length = 16) (hb : 0 < b) (hg : b ^ (H + 1) > 65535) :
    Gen.kd.derive_emv2000_tree_sk mk atc (H + 1) b iv =
      .ok (adjustKeyParity (Tree.skSpec phi b mk iv xorB H (fromBE atc))) := by
  rw [kd_tree_sk]; exact C05.tree_sk_eq_spec mk atc iv b H hmk ha hiv hb hg

theorem source_tree_gate (mk atc iv : Bytes) (b H : Nat) (hmk : mk.length = 16) (ha : atc.length = 2)
    (hiv : iv.length = 16) (hb : 0 < b) :
    (∃ k, Gen.kd.derive_emv2000_tree_sk mk atc (H + 1) b iv = .ok k) ↔ b ^ (H + 1) > 65535 := by
  rw [kd_tree_sk]; exact C05.gate_iff mk atc iv b H hmk ha hiv hb

end Pyemv.ModRefines
