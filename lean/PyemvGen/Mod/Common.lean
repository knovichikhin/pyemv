import PyemvGen.ModGen
import PyemvProofs.Tdes
/-! helper lemmas shared by the per-function refinement modules (one module per translated function, so that a
function the translator could not read — or whose proof no longer closes — takes down its own theorem and those
of its callers only) -/
namespace Pyemv.ModRefines
open Pyemv.Gen

theorem rep_flatten {α} (n : Nat) (x : α) : (List.replicate n [x]).flatten = List.replicate n x :=
  List.flatten_replicate_singleton

theorem pow256 (k : Nat) : (256 : Nat) ^ k = 2 ^ (8 * k) := pow256_eq k

theorem xor_lt_pow256 {x y k : Nat} (hx : x < 256 ^ k) (hy : y < 256 ^ k) : x ^^^ y < 256 ^ k := by
  rw [pow256] at *; exact Nat.xor_lt_two_pow hx hy

theorem lt_pow256_take {f : Bytes → Nat} (hf : ∀ l, f l < 256 ^ l.length) (a b : Bytes) :
    f (b.take a.length) < 256 ^ a.length :=
  Nat.lt_of_lt_of_le (hf _) (Nat.pow_le_pow_right (by omega) (by simp; omega))

theorem xor_fits (a b : Bytes) : fromLE a ^^^ fromLE (b.take a.length) < 256 ^ a.length :=
  xor_lt_pow256 (fromLE_lt a) (lt_pow256_take fromLE_lt a b)

/-! `pyMod`/`pyDiv` of the translated code in front of a continuation.  With these and the lemmas of `PyemvProofs/Except`
a guard that raises ends its branch, where unfolding `bind` into its `match` copies the rest of the function into both
branches of every guard. -/

theorem pyMod_bind {β} (a b : Nat) (f : Nat → R β) :
    (pyMod a b >>= f) = if b = 0 then .error .zeroDivision else f (a % b) := by
  unfold pyMod; split <;> rfl

theorem pyDiv_bind {β} (a b : Nat) (f : Nat → R β) :
    (pyDiv a b >>= f) = if b = 0 then .error .zeroDivision else f (a / b) := by
  unfold pyDiv; split <;> rfl

/-- `do let v ← x; pure v` is `x` (what a single-exit rewrite — bind a local in every branch, return it once — unfolds to) -/
@[simp] theorem except_match_eta {ε α : Type} (x : Except ε α) :
    (match x with | .error e => Except.error e | .ok v => Except.ok v) = x := by cases x <;> rfl

/-! Slice forms that agree once a length guard has been passed (`x[0:8]`, `x[8:16]`, `x[8:]`, `x[-8:]` on a 16-byte
`x`): used as a fall-back by the refinement proofs, so that a rewrite of one form into another does not break them. -/

theorem slice_zero {α} (l : List α) (n : Nat) : slice l 0 n = l.take n := by simp [slice]

theorem slice_to_end {α} (l : List α) (a b : Nat) (h : l.length ≤ b) : slice l a b = l.drop a := by
  unfold slice
  apply List.take_of_length_le
  simp; omega

theorem lastN_eq_drop {α} (l : List α) (n k : Nat) (h : l.length = k) : lastN n l = l.drop (k - n) := by
  simp [lastN, h]

theorem take_drop_all {α} (l : List α) (a n : Nat) (h : l.length ≤ a + n) : (l.drop a).take n = l.drop a := by
  apply List.take_of_length_le
  simp; omega

/-- closes `f (… slice form …) = f (… another slice form …)` goals under the length hypotheses in the context -/
macro "slice_forms" : tactic =>
  `(tactic| (simp_all (config := { decide := true }) [slice_zero, slice_to_end, take_drop_all, lastN, zeros, List.replicate]))

/-- After the `simp only` of a refinement proof both sides are the same tree of guards.  `split` descends it and a leaf
closes by `rfl`; what is left are leaves under guards that contradict one another or the length hypotheses (`simp_all`,
`omega`) and leaves that write one slice in two forms (`slice_forms`).  On the source as it stands most proofs need none
of it: it is there so that a behaviour-preserving rewrite of the Python (guards in another order, another slice form, a
test written the other way round) does not break a proof. -/
macro "same_guards" : tactic =>
  `(tactic| (repeat (first | rfl | split); all_goals first | (simp_all; done) | omega | slice_forms))

end Pyemv.ModRefines
