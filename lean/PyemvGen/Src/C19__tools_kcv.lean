import PyemvGen.Mod.tools_kcv
import PyemvProps.C19
/-! Generated by lean/mk_source.py (committed). C19 restated about the definitions translated from the
repository's source on this run (`Pyemv.Gen.*`), by the refinement theorem(s) tools_kcv. -/
namespace Pyemv.C19.Source
open Spec

theorem kcv_eq_spec (K : Bytes) (n : Nat) (hK : K.length = 16) :
    Gen.tools.key_check_digits K n = .ok ((tdesE K (zeros 8)).take n) := by
  simp only [ModRefines.tools_kcv]
  exact _root_.Pyemv.C19.kcv_eq_spec K n hK

end Pyemv.C19.Source
