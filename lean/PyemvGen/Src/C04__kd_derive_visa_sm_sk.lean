import PyemvGen.Mod.kd_derive_visa_sm_sk
import PyemvProps.C04
/-! Generated by lean/mk_source.py (committed). C04 restated about the definitions translated from the
repository's source on this run (`Pyemv.Gen.*`), by the refinement theorem(s) kd_derive_visa_sm_sk. -/
namespace Pyemv.C04.Source
open Spec

theorem visa_sk_eq_spec (mk atc : Bytes) (hmk : mk.length = 16) (ha : atc.length = 2) :
    Gen.kd.derive_visa_sm_sk mk atc = .ok (adjustKeyParity (visaFormula mk atc)) := by
  simp only [ModRefines.kd_derive_visa_sm_sk]
  exact _root_.Pyemv.C04.visa_sk_eq_spec mk atc hmk ha

end Pyemv.C04.Source
