import PyemvGen.Mod.sm_format_vis
import PyemvProps.C15
/-! Generated by lean/mk_source.py (committed). C15 restated about the definitions translated from the
repository's source on this run (`Pyemv.Gen.*`), by the refinement theorem(s) sm_format_vis. -/
namespace Pyemv.C15.Source
open Spec

theorem vis_pin_key_rejects (p : StrOrBytes) (mk : Bytes) (cur : Option StrOrBytes) (h : mk.length ≠ 16) :
    Gen.sm.format_vis_pin_block mk p cur = .error .valueError := by
  simp only [ModRefines.sm_format_vis]
  exact _root_.Pyemv.C15.vis_pin_key_rejects p mk cur h

theorem vis_current_pin_rejects (p c : StrOrBytes) (mk : Bytes) (h : c.len < 4 ∨ c.len > 12) :
    ∀ v, Gen.sm.format_vis_pin_block mk p (some c) ≠ .ok v := by
  simp only [ModRefines.sm_format_vis]
  exact _root_.Pyemv.C15.vis_current_pin_rejects p c mk h

end Pyemv.C15.Source
