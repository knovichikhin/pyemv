import PyemvGen.Mod.sm_encrypt_command_data
import PyemvProps.C15
/-! Generated by lean/mk_source.py (committed). C15 restated about the definitions translated from the
repository's source on this run (`Pyemv.Gen.*`), by the refinement theorem(s) sm_encrypt_command_data. -/
namespace Pyemv.C15.Source
open Spec

theorem encrypt_rejects (sk d : Bytes) (t : EncryptionType) (h : sk.length ≠ 16) :
    Gen.sm.encrypt_command_data sk d t = .error .valueError := by
  simp only [ModRefines.sm_encrypt_command_data]
  exact _root_.Pyemv.C15.encrypt_rejects sk d t h

theorem encrypt_other_scheme_typeerror (sk d : Bytes) (h : sk.length = 16) :
    Gen.sm.encrypt_command_data sk d .other = .error .typeError := by
  simp only [ModRefines.sm_encrypt_command_data]
  exact _root_.Pyemv.C15.encrypt_other_scheme_typeerror sk d h

theorem encrypt_accepts (sk d : Bytes) (h : sk.length = 16) (hd : d.length ≤ 255) :
    (∃ v, Gen.sm.encrypt_command_data sk d .visa = .ok v) ∧ (∃ v, Gen.sm.encrypt_command_data sk d .mastercard = .ok v) ∧
    (∃ v, Gen.sm.encrypt_command_data sk d .emv = .ok v) := by
  simp only [ModRefines.sm_encrypt_command_data]
  exact _root_.Pyemv.C15.encrypt_accepts sk d h hd

end Pyemv.C15.Source
