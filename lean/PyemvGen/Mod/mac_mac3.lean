import PyemvGen.Mod.Common
import PyemvGen.Mod.mac_pad1
import PyemvGen.Mod.mac_pad2
namespace Pyemv.ModRefines
open Pyemv.Gen

theorem mac_mac3 (k1 k2 d : Bytes) (pm : Int) (l : Option Nat) : Gen.mac.mac_iso9797_3 k1 k2 d pm l = mac3 k1 k2 d pm l := by
  unfold Gen.mac.mac_iso9797_3 mac3 padSelect macCore
  simp only [mac_pad1, mac_pad2, pad1_default, pad2_default, zeros, List.replicate, List.length_cons, List.length_nil, Nat.reduceAdd,
    ne_eq, not_true_eq_false, if_false, throw_eq, pure_eq_ok, ok_bind, error_bind, bind_ok, except_match_eta]
  same_guards

end Pyemv.ModRefines
