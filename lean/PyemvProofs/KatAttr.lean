import Lean.Meta.Tactic.Simp.RegisterCommand

/-- Rewrites a known-answer goal into the form its kernel evaluation is cheap in: the model's functions are
unfolded on the call paths down to `Des.crypt`, `Des.subkeys` and `Sha1.processBlock`, and these become their twins
of `Des.Fast` and `Sha1.Fast`. -/
register_simp_attr kat
