import PyemvGen.TlvRefinesDec
import PyemvProps.C18
/-! C09 / C17 / C18 (decoder half) restated about `TlvGen.decode`, the decoder translated from the repository's
`pyemv/tlv.py` on this run, for every conversion function and every option combination (absent option = `None`).
`TlvRefines.tlv_decode` says that the translated decoder is the model's converting decoder; the statements are then read
off `Refine.decode_runs`, the theorem that both model decoders return what the parse of the input determines (the one
about the call log, which is long, goes through its C18 original instead). -/
namespace Pyemv.TlvSource
open Pyemv.Tlv Pyemv.TlvSpec Pyemv.Refine

/-- the translated decoder is the model's converting decoder, so `decode_runs` speaks of it: its result, like the plain
decoder's, is what the parse of the input determines -/
theorem decode_runs {α} (conv : Bytes → Bytes → α) (fl si : Option Bool) (data : Bytes) :
    Runs conv (fl.getD false) data data.length [] [] (Tlv.decode (fl.getD false) (si.getD false) data)
      (TlvGen.decode conv fl si data) (parseItems (si.getD false) 0 data) := by
  rw [TlvRefines.tlv_decode]; exact Refine.decode_runs conv _ _ data

theorem decode_of_ok {α} (conv : Bytes → Bytes → α) (fl si : Option Bool) (data : Bytes) {o : Nat} {d : Dict}
    (h : Tlv.decode (fl.getD false) (si.getD false) data = .ok o d) :
    ∃ log, TlvGen.decode conv fl si data = .ok o (mapDict conv d) log :=
  (decode_runs conv fl si data).elim (P := fun r rc _ => r = .ok o d → ∃ log, rc = .ok o (mapDict conv d) log)
    (fun _ e => by cases e; exact ⟨_, rfl⟩) (fun _ _ _ _ e => nomatch e) h

/-- **C09, total**: the translated decoder returns a tree at exactly `len(data)` or raises `DecodeError` —
for every byte string, option combination and conversion function. -/
theorem decode_total {α} (conv : Bytes → Bytes → α) (fl si : Option Bool) (data : Bytes) :
    (∃ d log, TlvGen.decode conv fl si data = .ok data.length d log) ∨
    (∃ e d log, TlvGen.decode conv fl si data = .err e d log) :=
  (decode_runs conv fl si data).elim
    (P := fun _ rc _ => (∃ d log, rc = .ok data.length d log) ∨ ∃ e d log, rc = .err e d log)
    (fun _ => .inl ⟨_, _, rfl⟩) (fun _ _ _ _ => .inr ⟨_, _, _, rfl⟩)

/-- **C09, never another exception, always terminates**. -/
theorem decode_never_crashes {α} (conv : Bytes → Bytes → α) (fl si : Option Bool) (data : Bytes) :
    TlvGen.decode conv fl si data ≠ .crash ∧ TlvGen.decode conv fl si data ≠ .fuel := by
  rcases decode_total conv fl si data with ⟨d, l, h⟩ | ⟨e, d, l, h⟩ <;> rw [h] <;> exact ⟨nofun, nofun⟩

/-- **C09, the tree is the one the BER-TLV grammar defines** (mapped through the conversion function). -/
theorem decode_ok_iff {α} (conv : Bytes → Bytes → α) (fl si : Option Bool) (data : Bytes) (d' : DictC α) :
    (∃ o log, TlvGen.decode conv fl si data = .ok o d' log) ↔
      ∃ items, parseItems (si.getD false) 0 data = .ok items ∧
        d' = mapDict conv (absInto (fl.getD false) [] items) :=
  (decode_runs conv fl si data).elim
    (P := fun _ rc p => (∃ o log, rc = .ok o d' log) ↔
      ∃ items, p = .ok items ∧ d' = mapDict conv (absInto (fl.getD false) [] items))
    (fun items => by simp [eq_comm]) (fun g part tag _ => by simp)

/-- **C17**: a `DecodeError` of the translated decoder carries the grammar's fault kind and offset, the tag by the
stated relation, and the tree of everything completed before the fault (mapped through the conversion). -/
theorem decode_err_eq_spec {α} (conv : Bytes → Bytes → α) (fl si : Option Bool) (data : Bytes) (e : DErr)
    (d' : DictC α) (log : Log) (hg : TlvGen.decode conv fl si data = .err e d' log) :
    ∃ g part, parseItems (si.getD false) 0 data = .error (g, part) ∧ e.kind = g.kind ∧ e.ofs = g.ofs ∧
      d' = mapDict conv (absInto (fl.getD false) [] part) ∧ TagRel data g e :=
  (decode_runs conv fl si data).elim
    (P := fun _ rc p => rc = .err e d' log → ∃ g part, p = .error (g, part) ∧ e.kind = g.kind ∧ e.ofs = g.ofs ∧
      d' = mapDict conv (absInto (fl.getD false) [] part) ∧ TagRel data g e)
    (fun _ h => nomatch h) (fun g part _ rel h => by cases h; exact ⟨g, part, rfl, rfl, rfl, rfl, rel⟩) hg

/-- **C18, convert**: the conversion function is called exactly once per primitive object, in input order, never on
a template (the call log of the translated decoder is the list of primitives of the parse). -/
theorem convert_calls {α} (conv : Bytes → Bytes → α) (fl si : Option Bool) (x : Bytes) :
    match TlvGen.decode conv fl si x, parseItems (si.getD false) 0 x with
    | .ok o _ log, .ok items => o = x.length ∧ log = prims items
    | .err _ _ log, .error (_, part) => log = prims part
    | _, _ => False := by
  rw [TlvRefines.tlv_decode]; exact C18.convert_calls conv _ _ x

/-- **C18, flatten**: the flattened result of the translated decoder is the map of all primitive objects in input
order, last occurrence winning (mapped through the conversion). -/
theorem flat_eq_prims {α} (conv : Bytes → Bytes → α) (si : Option Bool) (x : Bytes) (o : Nat) (d' : DictC α) (log : Log)
    (hg : TlvGen.decode conv (some true) si x = .ok o d' log) :
    ∃ items, parseItems (si.getD false) 0 x = .ok items ∧
      d' = mapDict conv ((prims items).foldl (fun (d : Dict) (p : Bytes × Bytes) => Dict.set d p.1 (.prim p.2)) []) := by
  obtain ⟨items, hp, rfl⟩ := (decode_ok_iff conv (some true) si x d').mp ⟨o, log, hg⟩
  exact ⟨items, hp, by rw [← absFlat_eq_prims]; rfl⟩

end Pyemv.TlvSource
