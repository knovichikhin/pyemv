import PyemvGen.Mod.kd_derive_visa_sm_sk
import PyemvProps.C15
/-! Generated by lean/mk_source.py (committed). C15 restated about the definitions translated from the
repository's source on this run (`Pyemv.Gen.*`), by the refinement theorem(s) kd_derive_visa_sm_sk. -/
namespace Pyemv.C15.Source
open Spec

theorem visa_sk_rejects (mk atc : Bytes) (h : mk.length ≠ 16 ∨ atc.length ≠ 2) :
    Gen.kd.derive_visa_sm_sk mk atc = .error .valueError := by
  simp only [ModRefines.kd_derive_visa_sm_sk]
  exact _root_.Pyemv.C15.visa_sk_rejects mk atc h

theorem visa_sk_accepts (mk atc : Bytes) (h1 : mk.length = 16) (h2 : atc.length = 2) :
    ∃ v, Gen.kd.derive_visa_sm_sk mk atc = .ok v := by
  simp only [ModRefines.kd_derive_visa_sm_sk]
  exact _root_.Pyemv.C15.visa_sk_accepts mk atc h1 h2

end Pyemv.C15.Source
