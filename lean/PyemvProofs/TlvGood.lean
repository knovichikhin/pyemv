import PyemvProofs.TlvReencode
/-!
# Re-encoding any decoded tree

An invariant of decoded dictionaries (`Good`: distinct keys, every key a valid tag whose bit 6 matches the
node kind, sizes the length field can express).  Decoding establishes it; under it, encoding the tree succeeds,
decodes back to the same dictionary, and is no longer than the input.
-/
namespace Pyemv.Tlv
open Pyemv.TlvSpec Pyemv.RoundTrip Pyemv.Refine

mutual
def itemOfNode (si : Bool) (t : Bytes) : Node → Item
  | .prim v => .prim t (berLen si v.length) v
  | .cons kids => .cons t (berLen si (printItems (itemsOfDict si kids)).length) (itemsOfDict si kids)
def itemOfEntry (si : Bool) : Bytes × Node → Item
  | (t, n) => itemOfNode si t n
def itemsOfDict (si : Bool) : List (Bytes × Node) → List Item
  | [] => []
  | e :: rest => itemOfEntry si e :: itemsOfDict si rest
end

/-- size of the canonical encoding of a dictionary -/
def encSize (si : Bool) (d : Dict) : Nat := (printItems (itemsOfDict si d)).length

inductive Good (si : Bool) : Dict → Prop
  | nil : Good si []
  | prim {t v rest} : ValidTag t → t.headD 0 &&& 0x20 = 0 → LenOk si v.length → (∀ p ∈ rest, p.1 ≠ t) → Good si rest →
      Good si ((t, .prim v) :: rest)
  | cons {t kids rest} : ValidTag t → t.headD 0 &&& 0x20 ≠ 0 → Good si kids → LenOk si (encSize si kids) →
      (∀ p ∈ rest, p.1 ≠ t) → Good si rest → Good si ((t, .cons kids) :: rest)

theorem itemsOfDict_eq_map (si : Bool) (d : Dict) : itemsOfDict si d = d.map (itemOfEntry si) := by
  induction d with
  | nil => rfl
  | cons e rest ih => rw [itemsOfDict, ih, List.map_cons]

theorem itemTag_ne_of_absent {si : Bool} {rest : Dict} {t : Bytes} (hne : ∀ p ∈ rest, p.1 ≠ t) :
    ∀ i ∈ itemsOfDict si rest, itemTag i ≠ t := by
  intro i hi
  rw [itemsOfDict_eq_map] at hi
  obtain ⟨⟨t', n⟩, he, rfl⟩ := List.mem_map.mp hi
  cases n <;> exact hne _ he

/-- under the invariant the canonical CST is well-formed, canonical and has distinct tags; it denotes the
same tree as the dictionary and folds back to the dictionary -/
theorem good_items (si : Bool) (d : Dict) (h : Good si d) :
    (∀ i ∈ itemsOfDict si d, WF si i) ∧ CanonLens si (itemsOfDict si d) ∧ Distinct (itemsOfDict si d) ∧
    treeOfItems (itemsOfDict si d) = treeOfDict d ∧
    (∀ dec : Dict, (∀ p ∈ dec, ∀ q ∈ d, q.1 ≠ p.1) → absNested dec (itemsOfDict si d) = dec ++ d) := by
  induction h with
  | nil => exact ⟨nofun, .nil, .nil, rfl, fun dec _ => by rw [List.append_nil, itemsOfDict, absNested]⟩
  | @prim t v rest hvt hp hl hne _ ih =>
    obtain ⟨w, c, dd, tr, ab⟩ := ih
    simp only [itemsOfDict, itemOfEntry, itemOfNode]
    -- well-formed, canonical lengths, distinct tags; then the tree it denotes and the fold back
    refine ⟨List.forall_mem_cons.mpr ⟨.prim hvt hp (berLen_valid hl), w⟩, .prim rfl c,
      .prim (itemTag_ne_of_absent hne) dd, ?_, ?_⟩
    · simp only [treeOfItems, treeOfItem, treeOfDict, treeOfEntry, treeOfNode, tr]
    · intro dec hdis
      obtain ⟨e, hdis'⟩ := assign_fresh hdis hne rfl (Node.prim v)
      simp only [absNested]
      rw [Dict.set_eq, e, ab _ hdis']
      simp
  | @cons t kids rest hvt hp _ hl hne _ ihk ih =>
    obtain ⟨w, c, dd, tr, ab⟩ := ih
    obtain ⟨wk, ck, dk, trk, abk⟩ := ihk
    simp only [itemsOfDict, itemOfEntry, itemOfNode]
    refine ⟨List.forall_mem_cons.mpr ⟨.cons hvt hp wk (berLen_valid hl), w⟩, .cons rfl ck c,
      .cons (itemTag_ne_of_absent hne) dk dd, ?_, ?_⟩
    · simp only [treeOfItems, treeOfItem, treeOfDict, treeOfEntry, treeOfNode, tr, trk]
    · intro dec hdis
      have hk : absNested [] (itemsOfDict si kids) = kids := abk [] nofun
      obtain ⟨e, hdis'⟩ := assign_fresh hdis hne rfl (Node.cons kids)
      simp only [absNested]
      rw [hk, Dict.set_eq, e, ab _ hdis']
      simp

/-- an entry that may be stored in a `Good` dictionary -/
inductive GoodEntry (si : Bool) : Bytes → Node → Prop
  | prim {t v} : ValidTag t → t.headD 0 &&& 0x20 = 0 → LenOk si v.length → GoodEntry si t (.prim v)
  | cons {t kids} : ValidTag t → t.headD 0 &&& 0x20 ≠ 0 → Good si kids → LenOk si (encSize si kids) →
      GoodEntry si t (.cons kids)

theorem good_cons_iff {si : Bool} {t : Bytes} {n : Node} {rest : Dict} :
    Good si ((t, n) :: rest) ↔ GoodEntry si t n ∧ (∀ p ∈ rest, p.1 ≠ t) ∧ Good si rest := by
  constructor
  · intro h
    cases h with
    | prim a b c hne hr => exact ⟨.prim a b c, hne, hr⟩
    | cons a b c d hne hr => exact ⟨.cons a b c d, hne, hr⟩
  · rintro ⟨he, hne, hr⟩
    cases he with
    | prim a b c => exact .prim a b c hne hr
    | cons a b c d => exact .cons a b c d hne hr

/-- size of the canonical encoding of one entry -/
def entrySize (si : Bool) (t : Bytes) : Node → Nat
  | .prim v => t.length + (berLen si v.length).length + v.length
  | .cons kids => t.length + (berLen si (encSize si kids)).length + encSize si kids

theorem encSize_nil (si : Bool) : encSize si [] = 0 := by simp [encSize, itemsOfDict, printItems]

theorem encSize_cons (si : Bool) (t : Bytes) (n : Node) (rest : Dict) :
    encSize si ((t, n) :: rest) = entrySize si t n + encSize si rest := by
  cases n <;> simp [encSize, itemsOfDict, itemOfEntry, itemOfNode, printItems, entrySize] <;> omega

theorem encSize_append (si : Bool) (a b : Dict) : encSize si (a ++ b) = encSize si a + encSize si b := by
  simp only [encSize, itemsOfDict_eq_map, List.map_append, printItems_append, List.length_append]

theorem encSize_append_one (si : Bool) (d : Dict) (t : Bytes) (n : Node) :
    encSize si (d ++ [(t, n)]) = encSize si d + entrySize si t n := by
  rw [encSize_append, encSize_cons, encSize_nil, Nat.add_zero]

/-- storing a good entry (replacement in place, or append) keeps the invariant and grows the canonical
size by at most the entry's own size -/
theorem good_set {si : Bool} {t : Bytes} {n : Node} (he : GoodEntry si t n) : ∀ {d : Dict}, Good si d →
    Good si (Dict.set d t n) ∧ encSize si (Dict.set d t n) ≤ encSize si d + entrySize si t n := by
  intro d
  rw [Dict.set_eq]
  induction d with
  | nil =>
    intro _
    rw [assign_nil, encSize_cons, encSize_nil]
    exact ⟨good_cons_iff.mpr ⟨he, nofun, .nil⟩, by omega⟩
  | cons e rest ih =>
    obtain ⟨t', n'⟩ := e
    intro hd
    obtain ⟨he', hne, hr⟩ := good_cons_iff.mp hd
    by_cases h : t' = t
    · subst h
      rw [assign_cons_self _ _ _ _ hne, encSize_cons, encSize_cons]
      exact ⟨good_cons_iff.mpr ⟨he, hne, hr⟩, by omega⟩
    · obtain ⟨g, sz⟩ := ih hr
      rw [assign_cons_ne h, encSize_cons, encSize_cons]
      exact ⟨good_cons_iff.mpr ⟨he', assign_keys_ne hne (Ne.symm h) n, g⟩, by omega⟩

/-- folding well-formed objects into a good dictionary gives a good dictionary whose canonical encoding
is no larger than the old one plus the bytes read -/
theorem absNested_good' (si : Bool) (dec : Dict) (items : List Item) :
    (∀ i ∈ items, WF si i) → Good si dec →
    Good si (absNested dec items) ∧ encSize si (absNested dec items) ≤ encSize si dec + (printItems items).length := by
  fun_induction absNested dec items with
  | case1 dec => intro _ hd; exact ⟨hd, by simp [printItems]⟩
  | case2 dec t l v more ih =>
    intro hwf hd
    obtain ⟨hw, hwm⟩ := List.forall_mem_cons.mp hwf
    cases hw with
    | prim hvt hp hl =>
      obtain ⟨g', s'⟩ := good_set (.prim hvt hp (lenOk_of_validLen hl)) hd
      obtain ⟨g, sz⟩ := ih hwm g'
      have hb := berLen_length_le si v.length v.length l (Nat.le_refl _) hl
      simp only [entrySize] at s'
      simp only [printItems, List.length_append]
      exact ⟨g, by omega⟩
  | case3 dec t l kids more ihk ih =>
    intro hwf hd
    obtain ⟨hw, hwm⟩ := List.forall_mem_cons.mp hwf
    cases hw with
    | cons hvt hp hk hl =>
      obtain ⟨gk, szk⟩ := ihk hk .nil
      rw [encSize_nil] at szk
      obtain ⟨g', s'⟩ := good_set (.cons hvt hp gk (lenOk_mono (by omega) (lenOk_of_validLen hl))) hd
      obtain ⟨g, sz⟩ := ih hwm g'
      have hb := berLen_length_le si (encSize si (absNested [] kids)) (printItems kids).length l (by omega) hl
      simp only [entrySize] at s'
      simp only [printItems, List.length_append]
      exact ⟨g, by omega⟩

theorem absNested_good (si : Bool) : ∀ (n : Nat) (items : List Item) (dec : Dict),
    (printItems items).length ≤ n → (∀ i ∈ items, WF si i) → Good si dec →
    Good si (absNested dec items) ∧ encSize si (absNested dec items) ≤ encSize si dec + (printItems items).length :=
  fun _ items dec _ => absNested_good' si dec items

/-- **a dictionary under the invariant re-encodes**: the encoder accepts its tree and writes its canonical
serialisation, and that decodes back to the dictionary -/
theorem good_reencodes {si : Bool} {d : Dict} (h : Good si d) :
    encode si (treeOfDict d) = .ok (printItems (itemsOfDict si d)) ∧
    decode false si (printItems (itemsOfDict si d)) = .ok (encSize si d) d := by
  obtain ⟨w, c, -, tr, ab⟩ := good_items si d h
  refine ⟨tr ▸ encode_treeOfItems si _ w c, ?_⟩
  have hdec := decode_of_parse (fl := false) (parse_print' si _ 0 w)
  rwa [show absInto false [] (itemsOfDict si d) = d from ab [] nofun] at hdec

end Pyemv.Tlv
