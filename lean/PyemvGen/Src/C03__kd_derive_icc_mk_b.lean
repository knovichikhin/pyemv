import PyemvGen.Mod.kd_derive_icc_mk_b
import PyemvProps.C03
/-! Generated by lean/mk_source.py (committed). C03 restated about the definitions translated from the
repository's source on this run (`Pyemv.Gen.*`), by the refinement theorem(s) kd_derive_icc_mk_b. -/
namespace Pyemv.C03.Source
open Spec

theorem mk_b_eq_spec_of_gt_16 (issMk : Bytes) (pan : PyStr) (psn : Option PyStr) (hk : issMk.length = 16)
    (hp : IsDigits pan) (hs : ValidPsn psn) (hlen : 16 < pan.length) :
    ∃ hashed y, hexUpper hashed = evenPad (pan ++ psnText psn) ∧ y.length = 8 ∧
      hexUpper y = decimalise16 (sha1Hex hashed) ∧
      Gen.kd.derive_icc_mk_b issMk (.str pan) (psn.map .str) = .ok (keyFromY issMk y) := by
  simp only [ModRefines.kd_derive_icc_mk_b]
  exact _root_.Pyemv.C03.mk_b_eq_spec_of_gt_16 issMk pan psn hk hp hs hlen

end Pyemv.C03.Source
