import PyemvProofs.Tdes
import PyemvProofs.Par
import PyemvProofs.DesParity
/-! # Parity adjustment: what it does to one byte, lifted to keys; DES ignores parity bits -/
namespace Pyemv

/-- what `adjust_key_parity` does to one byte -/
def adjByte (b : UInt8) : UInt8 := if oddParity b.toNat = 0 then b ^^^ 1 else b

theorem adjustKeyParity_eq_map (k : Bytes) : adjustKeyParity k = k.map adjByte := rfl

theorem oddParity_xor_one (v : Nat) : oddParity (v ^^^ 1) = 1 - oddParity v := by
  rw [oddParity_eq, oddParity_eq, par_xor, show par 32 1 = true from rfl]
  cases par 32 v <;> rfl

theorem oddParity_adjByte (b : UInt8) : oddParity (adjByte b).toNat = 1 := by
  unfold adjByte
  split
  · rename_i h; rw [UInt8.toNat_xor, show (1 : UInt8).toNat = 1 from rfl, oddParity_xor_one, h]
  · rename_i h; rw [oddParity_eq] at h ⊢; split <;> simp_all

theorem adjByte_of_odd (b : UInt8) (h : oddParity b.toNat = 1) : adjByte b = b := by
  rw [adjByte, if_neg (by omega)]

theorem adjByte_idem (b : UInt8) : adjByte (adjByte b) = adjByte b := adjByte_of_odd _ (oddParity_adjByte b)

theorem adjByte_cases (b : UInt8) : adjByte b = b ∨ adjByte b = b ^^^ 1 := by
  unfold adjByte; split <;> simp

/-- a key every byte of which has an odd number of one bits -/
def OddBytes (k : Bytes) : Prop := ∀ b ∈ k, oddParity b.toNat = 1

/-- a 16-byte odd-parity DES key -/
def OddParityKey (k : Bytes) : Prop := k.length = 16 ∧ OddBytes k

theorem adjust_length (k : Bytes) : (adjustKeyParity k).length = k.length := by simp [adjustKeyParity]

theorem adjust_odd (k : Bytes) : OddBytes (adjustKeyParity k) := by
  intro b hb
  rw [adjustKeyParity_eq_map, List.mem_map] at hb
  obtain ⟨x, _, rfl⟩ := hb
  exact oddParity_adjByte x

theorem adjust_fixes_odd (k : Bytes) (h : OddBytes k) : adjustKeyParity k = k := by
  rw [adjustKeyParity_eq_map, List.map_congr_left (g := id) fun b hb => adjByte_of_odd b (h b hb), List.map_id]

theorem adjust_key (k : Bytes) (h : k.length = 16) : OddParityKey (adjustKeyParity k) :=
  ⟨by rw [adjust_length, h], adjust_odd k⟩

/-! ### DES never looks at the parity bits -/

theorem adjByte_testBit (b : UInt8) (j : Nat) (hj : j ≠ 0) : (adjByte b).toNat.testBit j = b.toNat.testBit j := by
  rcases adjByte_cases b with h | h
  · rw [h]
  · rw [h, UInt8.toNat_xor, Nat.testBit_xor, show (1 : UInt8).toNat = 2 ^ 0 from rfl, Nat.testBit_two_pow,
      decide_eq_false (Ne.symm hj), Bool.xor_false]

theorem fromLE_testBit_cons (b : UInt8) (bs : Bytes) (i : Nat) :
    (fromLE (b :: bs)).testBit i = if i < 8 then b.toNat.testBit i else (fromLE bs).testBit (i - 8) := by
  rw [fromLE, Nat.add_comm, show (256 : Nat) = 2 ^ 8 from rfl, Nat.testBit_two_pow_mul_add _ b.toNat_lt]

theorem fromBE_adjust_testBit (k : Bytes) (i : Nat) (hi : i % 8 ≠ 0) :
    (fromBE (adjustKeyParity k)).testBit i = (fromBE k).testBit i := by
  rw [fromBE_eq_reverse, fromBE_eq_reverse, adjustKeyParity_eq_map, ← List.map_reverse]
  generalize k.reverse = l
  induction l generalizing i with
  | nil => rfl
  | cons b bs ih =>
    rw [List.map_cons, fromLE_testBit_cons, fromLE_testBit_cons]
    split
    · exact adjByte_testBit b i (by omega)
    · exact ih _ (by omega)

theorem subkeys_adjust (k : Bytes) : Des.subkeys (fromBE (adjustKeyParity k)) = Des.subkeys (fromBE k) :=
  Des.subkeys_parity_indep _ _ (fun i hi => fromBE_adjust_testBit k i hi)

theorem adjust_take (k : Bytes) (n : Nat) : (adjustKeyParity k).take n = adjustKeyParity (k.take n) := by
  simp [adjustKeyParity_eq_map, List.map_take]
theorem adjust_drop (k : Bytes) (n : Nat) : (adjustKeyParity k).drop n = adjustKeyParity (k.drop n) := by
  simp [adjustKeyParity_eq_map, List.map_drop]

theorem tdesKeys_adjust (k : Bytes) : tdesKeys (adjustKeyParity k) = tdesKeys k := by
  unfold tdesKeys
  simp only [adjust_length, adjust_take, adjust_drop, subkeys_adjust]

end Pyemv
