import PyemvProofs.DesProofs
/-! # The key schedule, hence DES, does not look at the parity bits of the key -/
namespace Des

/-- PC-1 selects none of the bits 0, 8, …, 56 (the parity bits of the key bytes) -/
theorem PC1_avoids_parity : ∀ p ∈ PC1, (64 - p) % 8 ≠ 0 := by decide

theorem subkeys_parity_indep (k k' : Nat) (h : ∀ i, i % 8 ≠ 0 → k'.testBit i = k.testBit i) :
    subkeys k' = subkeys k := by
  have hpc : permute PC1 64 k' = permute PC1 64 k := by
    apply Nat.eq_of_testBit_eq
    intro i
    rw [permute_testBit, permute_testBit]
    by_cases hi : i < PC1.length
    · obtain ⟨p, hp, e⟩ := srcBit_mem 64 hi
      rw [e, h _ (PC1_avoids_parity p hp)]
    · rw [decide_eq_false hi, Bool.false_and, Bool.false_and]
  unfold subkeys
  rw [hpc]

theorem enc_parity_indep (k k' x : Nat) (h : ∀ i, i % 8 ≠ 0 → k'.testBit i = k.testBit i) :
    enc k' x = enc k x ∧ dec k' x = dec k x := by
  unfold enc dec
  rw [subkeys_parity_indep k k' h]
  exact ⟨rfl, rfl⟩

end Des
