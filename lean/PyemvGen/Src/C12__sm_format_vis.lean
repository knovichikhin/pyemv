import PyemvGen.Mod.sm_format_vis
import PyemvProps.C12
/-! Generated by lean/mk_source.py (committed). C12 restated about the definitions translated from the
repository's source on this run (`Pyemv.Gen.*`), by the refinement theorem(s) sm_format_vis. -/
namespace Pyemv.C12.Source
open Spec

theorem vis_recovers (mkAc : Bytes) (p : PyStr) (cur : Option PyStr) (hmk : mkAc.length = 16) (hp : ValidPin p)
    (hc : ∀ c, cur = some c → ValidPin c) :
    ∃ blk body curBlock, Gen.sm.format_vis_pin_block mkAc (.str p) (cur.map .str) = .ok blk ∧ blk.length = 8 ∧
      body.length = 7 ∧ hexUpper body = p ++ List.replicate (14 - p.length) 'F' ∧
      (∀ c, cur = some c → a2bHex (c ++ List.replicate (16 - c.length) '0') = .ok curBlock ∧
        hexUpper curBlock = c ++ List.replicate (16 - c.length) '0') ∧
      visPlain blk mkAc cur curBlock = UInt8.ofNat p.length :: body := by
  simp only [ModRefines.sm_format_vis]
  exact _root_.Pyemv.C12.vis_recovers mkAc p cur hmk hp hc

end Pyemv.C12.Source
