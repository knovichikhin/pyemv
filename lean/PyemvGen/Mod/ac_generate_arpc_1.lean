import PyemvGen.Mod.Common
import PyemvProps.C02
import PyemvGen.Mod.tools_xor
import PyemvGen.Mod.tools_cbc
namespace Pyemv.ModRefines
open Pyemv.Gen

theorem ac_generate_arpc_1 (sk q rc : Bytes) : Gen.ac.generate_arpc_1 sk q rc = generateArpc1 sk q rc := by
  unfold Gen.ac.generate_arpc_1 generateArpc1
  simp only [tools_xor, rep_flatten, zeros, tools_cbc, throw_eq, pure_eq_ok, ok_bind, error_bind, bind_ok, except_match_eta]
  same_guards

/-- **C02 (method 1) about the translated source** -/
theorem source_generate_arpc_1 (sk arqc rc : Bytes) (hsk : sk.length = 16) (hq : arqc.length = 8) (hrc : rc.length = 2) :
    Gen.ac.generate_arpc_1 sk arqc rc = .ok (Spec.tdesE sk (xorB arqc (rc ++ zeros 6))) := by
  rw [ac_generate_arpc_1]; exact C02.arpc1_eq_spec sk arqc rc hsk hq hrc

end Pyemv.ModRefines
