import PyemvProps.C09
/-! # C17 — a decode error pinpoints the fault and returns what was decoded before it -/
namespace Pyemv.C17
open Pyemv.Tlv Pyemv.TlvSpec Pyemv.Refine

/-- Whenever decoding fails, the grammar fails too, and the error carries the grammar's fault kind and
offset (start of the tag / of the length bytes / of the value that does not fit in its parent), the
partial tree is the fold (nested or flat) of the items completed or opened before the fault, and the
tag is related to the bytes at the fault as `TagRel` states. -/
theorem decode_err_eq_spec (fl si : Bool) (data : Bytes) (e : DErr) (d : Dict)
    (h : decode fl si data = .err e d) :
    ∃ g part, parseItems si 0 data = .error (g, part) ∧ e.kind = g.kind ∧ e.ofs = g.ofs ∧
      d = absInto fl [] part ∧ TagRel data g e :=
  (decode_runs (fun _ _ => ()) fl si data).elim
    (P := fun r _ p => r = .err e d → ∃ g part, p = .error (g, part) ∧ e.kind = g.kind ∧ e.ofs = g.ofs ∧
      d = absInto fl [] part ∧ TagRel data g e)
    (fun _ h => nomatch h) (fun g part _ rel h => by cases h; exact ⟨g, part, rfl, rfl, rfl, rfl, rel⟩) h

/-- for length and value faults the complete tag is reported; for tag faults the reported name extends
the part of the tag lying inside the parent and is read from the input at the offset -/
theorem err_tag (fl si : Bool) (data : Bytes) (e : DErr) (d : Dict) (h : decode fl si data = .err e d) :
    ∃ g part, parseItems si 0 data = .error (g, part) ∧
      (e.kind = .tag → g.tagRegion <+: e.tag ∧ e.tag <+: data.drop e.ofs) ∧
      (e.kind ≠ .tag → e.tag = g.tagRegion) := by
  obtain ⟨g, part, hp, hk, _, _, hrel⟩ := decode_err_eq_spec fl si data e d h
  exact ⟨g, part, hp, fun hkt => (tagRel_tag (hk ▸ hkt)).mp hrel, fun hkt => (tagRel_ne (hk ▸ hkt)).mp hrel⟩

example : ∃ e d, decode false false [0xE0, 0x01, 0x9F, 0x82] = .err e d ∧ e.ofs = 2 := ⟨_, _, rfl, rfl⟩

end Pyemv.C17
