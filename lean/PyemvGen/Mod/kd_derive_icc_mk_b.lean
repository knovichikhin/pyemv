import PyemvGen.Mod.Common
import PyemvGen.Mod.kd_derive_icc_mk_a
import PyemvGen.Mod.tools_xor
import PyemvGen.Mod.tools_ecb
import PyemvGen.Mod.tools_adjust
namespace Pyemv.ModRefines
open Pyemv.Gen

theorem kd_derive_icc_mk_b (k : Bytes) (pan : StrOrBytes) (psn : Option StrOrBytes) :
    Gen.kd.derive_icc_mk_b k pan psn = deriveIccMkB k pan psn := by
  unfold Gen.kd.derive_icc_mk_b deriveIccMkB keyFromData psnTextR bcdPanPsn selectDigits
  simp only [kd_derive_icc_mk_a, tools_xor, rep_flatten, tools_ecb, tools_adjust, pyMod_bind, bind_assoc, throw_eq,
    pure_eq_ok, ok_bind, error_bind, bind_ok, except_match_eta, show ¬ (2 : Nat) = 0 by omega, if_false,
    ← apply_ite Except.ok, apply_ite Prod.snd, Nat.mod_two_ne_zero, List.cons_append, List.nil_append]
  same_guards

end Pyemv.ModRefines
