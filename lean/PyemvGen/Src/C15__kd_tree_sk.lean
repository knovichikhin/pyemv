import PyemvGen.Mod.kd_tree_sk
import PyemvProps.C15
/-! Generated by lean/mk_source.py (committed). C15 restated about the definitions translated from the
repository's source on this run (`Pyemv.Gen.*`), by the refinement theorem(s) kd_tree_sk. -/
namespace Pyemv.C15.Source
open Spec

theorem tree_sk_rejects (mk atc iv : Bytes) (hgt b : Nat) (h : mk.length ≠ 16 ∨ atc.length ≠ 2 ∨ iv.length ≠ 16) :
    Gen.kd.derive_emv2000_tree_sk mk atc hgt b iv = .error .valueError := by
  simp only [ModRefines.kd_tree_sk]
  exact _root_.Pyemv.C15.tree_sk_rejects mk atc iv hgt b h

theorem tree_sk_accepts (mk atc iv : Bytes) (b H : Nat) (h1 : mk.length = 16) (h2 : atc.length = 2) (h3 : iv.length = 16)
    (hb : 0 < b) (hg : b ^ (H + 1) > 65535) :
    ∃ v, Gen.kd.derive_emv2000_tree_sk mk atc (H + 1) b iv = .ok v := by
  simp only [ModRefines.kd_tree_sk]
  exact _root_.Pyemv.C15.tree_sk_accepts mk atc iv b H h1 h2 h3 hb hg

end Pyemv.C15.Source
