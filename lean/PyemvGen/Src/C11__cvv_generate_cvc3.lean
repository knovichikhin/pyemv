import PyemvGen.Mod.cvv_generate_cvc3
import PyemvProps.C11
/-! Generated by lean/mk_source.py (committed). C11 restated about the definitions translated from the
repository's source on this run (`Pyemv.Gen.*`), by the refinement theorem(s) cvv_generate_cvc3. -/
namespace Pyemv.C11.Source
open Spec

theorem cvc3_eq_spec (k track atc un : Bytes) (hk : k.length = 16) (ha : atc.length = 2) (hu : un.length = 4) :
    Gen.cvv.generate_cvc3 k track atc un = .ok (digits5 (cvc3Value k track atc un)) := by
  simp only [ModRefines.cvv_generate_cvc3]
  exact _root_.Pyemv.C11.cvc3_eq_spec k track atc un hk ha hu

end Pyemv.C11.Source
