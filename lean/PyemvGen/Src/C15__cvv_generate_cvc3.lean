import PyemvGen.Mod.cvv_generate_cvc3
import PyemvProps.C15
/-! Generated by lean/mk_source.py (committed). C15 restated about the definitions translated from the
repository's source on this run (`Pyemv.Gen.*`), by the refinement theorem(s) cvv_generate_cvc3. -/
namespace Pyemv.C15.Source
open Spec

theorem cvc3_rejects (k t atc un : Bytes) (h : k.length ≠ 16 ∨ atc.length ≠ 2 ∨ un.length ≠ 4) :
    Gen.cvv.generate_cvc3 k t atc un = .error .valueError := by
  simp only [ModRefines.cvv_generate_cvc3]
  exact _root_.Pyemv.C15.cvc3_rejects k t atc un h

theorem cvc3_accepts (k t atc un : Bytes) (h1 : k.length = 16) (h2 : atc.length = 2) (h3 : un.length = 4) :
    ∃ v, Gen.cvv.generate_cvc3 k t atc un = .ok v := by
  simp only [ModRefines.cvv_generate_cvc3]
  exact _root_.Pyemv.C15.cvc3_accepts k t atc un h1 h2 h3

end Pyemv.C15.Source
