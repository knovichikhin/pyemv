import PyemvProofs.TlvDecode
/-!
# C09 — TLV decoding is total and follows the BER-TLV rules

`Tlv.decode` is the code-shaped model of `pyemv.tlv.decode` (offsets, parent limits, the tag scan that
runs past the limit, the state-threaded dict); `TlvSpec.parseItems` is the structural grammar of
EMV Book 3 Annex B.  The correspondence check runs `Tlv.decode` against the real decoder.
-/
namespace Pyemv.C09
open Pyemv.Tlv Pyemv.TlvSpec Pyemv.Refine

/-- **Totality**: for every byte string and every flatten/simple combination the decoder terminates
(the fuel `len + 1` never runs out) with a tree at exactly `len(data)` or with a `DecodeError` —
never another exception (`crash` stands for an escaping `IndexError`). -/
theorem decode_total (fl si : Bool) (data : Bytes) :
    (∃ d, decode fl si data = .ok data.length d) ∨ (∃ e d, decode fl si data = .err e d) :=
  Tlv.decode_total fl si data

theorem decode_never_crashes (fl si : Bool) (data : Bytes) :
    (∀ d, decode fl si data ≠ .crash d) ∧ decode fl si data ≠ .fuel := by
  rcases decode_total fl si data with ⟨d, h⟩ | ⟨e, d, h⟩ <;> rw [h] <;> exact ⟨nofun, nofun⟩

/-- **Conformance**: the decoder computes exactly what the grammar defines: the same tree on success
(nested or flattened view of the concrete syntax tree, last occurrence winning); on failure the same
fault kind, offset and partial tree, and a tag related as C17 states. -/
theorem decode_refines (fl si : Bool) (data : Bytes) :
    Refines fl data data.length [] (decode fl si data) (parseItems si 0 data) :=
  Refine.decode_refines fl si data

/-- success of the decoder = success of the grammar, with the tree being the fold of the CST -/
theorem decode_ok_iff (fl si : Bool) (data : Bytes) (d : Dict) :
    (∃ o, decode fl si data = .ok o d) ↔ ∃ items, parseItems si 0 data = .ok items ∧ d = absInto fl [] items :=
  -- the plain decoder alone is asked about: any conversion will do (as in `decode_of_parse`)
  (decode_runs (fun _ _ => ()) fl si data).elim
    (P := fun r _ p => (∃ o, r = .ok o d) ↔ ∃ items, p = .ok items ∧ d = absInto fl [] items)
    (fun items => by simp [eq_comm]) (fun g part tag _ => by simp)

/-- a repeated tag keeps the last occurrence (dict assignment replaces in place) -/
theorem repeated_tag_keeps_last (d : Dict) (k : Bytes) (v w : Node) :
    ((d.set k v).set k w) = d.set k w := assign_assign d k v w

/-- non-vacuity: a concrete input decodes to a concrete tree through the model -/
example : ∃ d, decode false false [0x9C, 0x01, 0x01, 0xE0, 0x03, 0x9A, 0x01, 0x02] = .ok 8 d := ⟨_, rfl⟩

end Pyemv.C09
