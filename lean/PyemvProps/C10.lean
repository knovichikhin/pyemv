import PyemvProofs.TlvEncode
import PyemvProps.C09
/-!
# C10 — TLV encoding round-trips and is canonical

`Tlv.encode` is the code-shaped model of `pyemv.tlv.encode`.  `WFTree` is the well-formedness predicate
of the property; `Mirror` relates a tree to the concrete syntax tree the encoder must write (tag bytes
parsed from the names, *shortest definite lengths* `berLen`, values as bytes, mapping order).
Assumption (DESIGN.md §8.2): the encoded output is shorter than 256^127 bytes, so that the number of
length bytes fits the seven bits of the `0x80+k` byte.
-/
namespace Pyemv.C10
open Pyemv.Tlv Pyemv.TlvSpec Pyemv.RoundTrip Pyemv.Refine

/-- exactly the well-formed trees are accepted -/
theorem encode_accepts_iff_wellformed (si : Bool) (t : List (PyStr × PyVal)) :
    (∃ b, encode si t = .ok b) ↔ WFTree si t :=
  ⟨fun ⟨b, h⟩ => ok_wf si t b h, wf_accepts si t⟩

/-- **canonical form**: the output is the serialisation of the mirrored CST — each tag's bytes, the
shortest definite length, the value, in mapping order -/
theorem encode_canonical (si : Bool) (t : List (PyStr × PyVal)) (b : Bytes) (h : encode si t = .ok b)
    (hlen : si = false → b.length < 256 ^ 127) : ∃ items, b = printItems items ∧ Mirror si t items ∧ ∀ i ∈ items, WF si i :=
  encodeItems_ok si t b h hlen

/-- the length the encoder writes: one byte up to 127, otherwise `0x80 + k` and the `k`-byte minimal
big-endian length (`256^(k-1) ≤ n < 256^k`); in simple mode always one byte, anything above 255 refused -/
theorem length_field_shortest (n : Nat) (hn : 128 ≤ n) (hbig : n < 256 ^ 127) :
    lenField false n = some (berLen false n) ∧ berLen false n = UInt8.ofNat (0x80 + byteLen n) :: toBE (byteLen n) n ∧
    256 ^ (byteLen n - 1) ≤ n ∧ n < 256 ^ byteLen n ∧ (∀ m, m < 128 → berLen false m = [UInt8.ofNat m]) ∧
    (∀ m, lenField true m = none ↔ m > 255) := by
  obtain ⟨a, b⟩ := byteLen_spec n (by omega)
  exact ⟨lenField_eq ⟨nofun, fun _ => hbig⟩, berLen_long hn, a, b, fun m hm => berLen_short (.inr hm),
    fun m => by rw [lenField_none_iff]; simp⟩

/-- **round trip**: the encoder's output decodes (same mode) to the tree with tag names as tag bytes and
values as bytes — the nested fold of the mirrored CST, last occurrence winning when two names denote the
same tag; and the flattened view likewise -/
theorem roundtrip (fl si : Bool) (t : List (PyStr × PyVal)) (b : Bytes) (h : encode si t = .ok b)
    (hlen : si = false → b.length < 256 ^ 127) :
    ∃ items, Mirror si t items ∧ decode fl si b = .ok b.length (absInto fl [] items) := by
  obtain ⟨items, e, m, w⟩ := encode_canonical si t b h hlen
  exact ⟨items, m, decode_of_parse (e ▸ parse_print' si items 0 w)⟩

/-- **the error names the offending tag** — the *first* one in evaluation order: the pair it names has a fault
of its own (`ItemFault`: a name that is not the hex name of exactly one tag, a value of the wrong kind for
the tag, a non-hex value string, or more than 255 value bytes in simple mode), every pair evaluated before
it — earlier in its mapping, at every enclosing level — is well-formed, and every enclosing template has a
valid constructed tag.  Conversely a tree with such an offender is never well-formed. -/
theorem encode_error_names_first_offender (si : Bool) (t : List (PyStr × PyVal)) (h : ¬ WFTree si t) :
    ∃ e, encode si t = .error e ∧ FirstOffender si e.tag t := by
  cases he : encode si t with
  | ok b => exact absurd (ok_wf si t b he) h
  | error e => exact ⟨e, rfl, encodeItems_offender si t e he⟩

/-- a tree that is not well-formed is refused with an error naming one of its tags; an error outcome
carries no bytes by construction (`Except`) -/
theorem encode_error (si : Bool) (t : List (PyStr × PyVal)) (h : ¬ WFTree si t) :
    ∃ e, encode si t = .error e ∧ KeyIn e.tag t := by
  obtain ⟨e, he, ho⟩ := encode_error_names_first_offender si t h
  exact ⟨e, he, keyIn_of_offender ho⟩

/-- the named tag really is an offending one: a tree with a first offender is not well-formed -/
theorem first_offender_is_offending (si : Bool) (k : PyStr) (t : List (PyStr × PyVal)) (h : FirstOffender si k t) :
    ¬ WFTree si t := by
  intro hw
  obtain ⟨b, hb⟩ := wf_accepts si t hw
  rw [offender_refused h] at hb
  cases hb

/-- non-vacuity: the second of two bad pairs is not the one named -/
example : FirstOffender false ['G', 'G'] [(['9', 'C'], .bytes [1]), (['G', 'G'], .bytes []), (['9'], .other)] :=
  FirstOffender.later (WFTree.bytes (t := [0x9C]) rfl rfl (by intro h; cases h) WFTree.nil)
    (FirstOffender.here (ItemFault.name rfl))

/-- non-vacuity: a concrete mixed-case, nested tree is well-formed and encodes to the documented bytes -/
example : ∃ b, encode false [(['9', 'c'], .bytes [1]), (['E', '0'], .dict [(['5', 'F', '2', 'A'], .str ['0', '2', '0', '8'])])]
    = .ok b ∧ b = [0x9C, 0x01, 0x01, 0xE0, 0x05, 0x5F, 0x2A, 0x02, 0x02, 0x08] := ⟨_, rfl, rfl⟩

end Pyemv.C10
