import PyemvGen.Mod.tools_odd_parity
import PyemvProps.C19
/-! Generated by lean/mk_source.py (committed). C19 restated about the definitions translated from the
repository's source on this run (`Pyemv.Gen.*`), by the refinement theorem(s) tools_odd_parity. -/
namespace Pyemv.C19.Source
open Spec

theorem odd_parity_eq (v : Nat) :
    Gen.tools.odd_parity v = if par 32 v then 1 else 0 := by
  simp only [ModRefines.tools_odd_parity]
  exact _root_.Pyemv.C19.odd_parity_eq v

theorem odd_parity_all_bits (v : Nat) (hv : v < 2 ^ 32) (m : Nat) :
    Gen.tools.odd_parity v = if par (32 + m) v then 1 else 0 := by
  simp only [ModRefines.tools_odd_parity]
  exact _root_.Pyemv.C19.odd_parity_all_bits v hv m

end Pyemv.C19.Source
