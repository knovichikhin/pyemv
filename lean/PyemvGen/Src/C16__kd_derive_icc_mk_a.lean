import PyemvGen.Mod.kd_derive_icc_mk_a
import PyemvProps.C16
/-! Generated by lean/mk_source.py (committed). C16 restated about the definitions translated from the
repository's source on this run (`Pyemv.Gen.*`), by the refinement theorem(s) kd_derive_icc_mk_a. -/
namespace Pyemv.C16.Source
open Spec

theorem mk_a_forms (k : Bytes) (a b : StrOrBytes) (c d : Option StrOrBytes) (h : SameText a b) (hc : SameTextOpt c d) :
    Gen.kd.derive_icc_mk_a k a c = Gen.kd.derive_icc_mk_a k b d := by
  simp only [ModRefines.kd_derive_icc_mk_a]
  exact _root_.Pyemv.C16.mk_a_forms k a b c d h hc

end Pyemv.C16.Source
