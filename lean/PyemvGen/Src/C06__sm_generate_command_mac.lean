import PyemvGen.Mod.sm_generate_command_mac
import PyemvProps.C06
/-! Generated by lean/mk_source.py (committed). C06 restated about the definitions translated from the
repository's source on this run (`Pyemv.Gen.*`), by the refinement theorem(s) sm_generate_command_mac. -/
namespace Pyemv.C06.Source
open Spec

theorem command_mac_eq_spec (sk cmd : Bytes) (len : Option Nat) (hsk : sk.length = 16) :
    Gen.sm.generate_command_mac sk cmd len =
      .ok ((alg3 (sk.take 8) (sk.drop 8) (Spec.pad2 8 cmd)).take (len.getD 8)) := by
  simp only [ModRefines.sm_generate_command_mac]
  exact _root_.Pyemv.C06.command_mac_eq_spec sk cmd len hsk

theorem card_accepts (sk cmd : Bytes) (len : Option Nat) (hsk : sk.length = 16) (hlen : len.getD 8 ≤ 8) :
    ∃ m, Gen.sm.generate_command_mac sk cmd len = .ok m ∧ m.length = len.getD 8 ∧ cardVerifies sk cmd m = true := by
  simp only [ModRefines.sm_generate_command_mac]
  exact _root_.Pyemv.C06.card_accepts sk cmd len hsk hlen

end Pyemv.C06.Source
