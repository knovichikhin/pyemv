import PyemvGen.Mod.kd_derive_icc_mk_a
import PyemvProps.C03
/-! Generated by lean/mk_source.py (committed). C03 restated about the definitions translated from the
repository's source on this run (`Pyemv.Gen.*`), by the refinement theorem(s) kd_derive_icc_mk_a. -/
namespace Pyemv.C03.Source
open Spec

theorem mk_a_eq_spec (issMk : Bytes) (pan : PyStr) (psn : Option PyStr) (hk : issMk.length = 16)
    (hp : IsDigits pan) (hs : ValidPsn psn) :
    ∃ y, y.length = 8 ∧ hexUpper y = zfill 16 (lastN 16 (pan ++ psnText psn)) ∧
      Gen.kd.derive_icc_mk_a issMk (.str pan) (psn.map .str) = .ok (keyFromY issMk y) := by
  simp only [ModRefines.kd_derive_icc_mk_a]
  exact _root_.Pyemv.C03.mk_a_eq_spec issMk pan psn hk hp hs

end Pyemv.C03.Source
