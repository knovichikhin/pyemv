import PyemvProps.C04
import PyemvProps.C06
import PyemvProps.C07
import PyemvProps.C12
import PyemvProps.C13
/-!
# C08 — each CVN class applies exactly its documented scheme profile, end to end

The Impl layer of `cvn.py` *is* a profile table (`Cvn.profile`) read by generic functions; the tie runs
that table against the constructor and every method of the eight real classes.  Here: the table rows as
documented; the shape of every PIN-change command; and the card-side procedure — check Lc, recompute the
MAC, decipher, unframe, undo the PIN block — accepting the command and recovering exactly the new PIN.
-/
namespace Pyemv.C08
open Spec Pyemv.Cvn

/-- the eight documented profiles (class docstrings of cvn.py), as data -/
theorem profile_rows :
    profile "VisaCVN10" = some ⟨.a, .none, .visa, false, 1, .none, .visaAtc, true, .visa, .visOnly, .visa⟩ ∧
    profile "VisaCVN18" = some ⟨.b, .commonAtc, .emv, false, 2, .commonAtc, .visaAtc, true, .visa, .visOnly, .visa⟩ ∧
    profile "VisaCVN22" = some ⟨.b, .commonAtc, .emv, false, 2, .commonAtc, .commonArqc, true, .visa, .iso2OrVis, .visa⟩ ∧
    profile "InteracCVN133" = some ⟨.a, .mcAtcUn, .emv, false, 1, .mcAtcUn, .commonArqc, false, .mastercard, .iso2Only, .mc⟩ ∧
    profile "MasterCardCVN16" = some ⟨.a, .mcAtcUn, .emv, false, 1, .none, .commonArqc, true, .mastercard, .iso2Only, .mc⟩ ∧
    profile "MasterCardCVN17" = some ⟨.a, .mcAtcUn, .emv, true, 1, .none, .commonArqc, true, .mastercard, .iso2Only, .mc⟩ ∧
    profile "MasterCardCVN20" = some ⟨.a, .commonAtc, .emv, false, 1, .commonAtc, .commonArqc, true, .mastercard, .iso2Only, .mc⟩ ∧
    profile "MasterCardCVN21" = some ⟨.a, .commonAtc, .emv, true, 1, .commonAtc, .commonArqc, true, .mastercard, .iso2Only, .mc⟩ :=
  ⟨rfl, rfl, rfl, rfl, rfl, rfl, rfl, rfl⟩

/-- encipherment scheme and command header belong together (Visa framing ↔ Lc 0x18, MasterCard ↔ Lc 0x10) -/
def Consistent (p : Profile) : Prop := (p.enc = .visa ∧ p.hdr = .visa) ∨ (p.enc = .mastercard ∧ p.hdr = .mc)

theorem rows_consistent : ∀ cls ∈ classNames, ∃ p, profile cls = some p ∧ Consistent p := by
  simp only [classNames, List.forall_mem_cons, profile_rows, Option.some.injEq, exists_eq_left', Consistent]
  decide

def curBlockOf : Option PyStr → Bytes
  | none => []
  | some c => match a2bHex (c ++ List.replicate (16 - c.length) '0') with | .ok b => b | .error _ => []

/-- does this profile use the VIS PIN block for this request? -/
def usesVis (p : Profile) (cur : Option PyStr) : Bool :=
  match p.pin with | .visOnly => true | .iso2OrVis => cur.isSome | .iso2Only => false

/-- undo the PIN block: strip the key / current-PIN masks of the VIS layout, read the length nibble and
that many digits -/
def unPin (vis : Bool) (mkAc : Bytes) (cur : Option PyStr) (blk : Bytes) : PyStr :=
  let plain := if vis then C12.visPlain blk mkAc cur (curBlockOf cur) else blk
  (hexUpper plain.tail).take ((plain.headD 0).toNat % 16)

/-- what a card holding the same keys does with a PIN CHANGE command -/
def cardProcess (p : Profile) (card : Card) (arqc atc cmd : Bytes) (cur : Option PyStr) : Option PyStr :=
  let hdr := cmd.take 5
  let body := cmd.drop 5
  if (hdr.getD 4 0).toNat ≠ body.length then none else
  let ct := body.take (body.length - 8)
  let mac := body.drop (body.length - 8)
  match smKey p card.smi arqc atc, smKey p card.smc arqc atc with
  | .ok skI, .ok skC =>
    if alg3 (skI.take 8) (skI.drop 8) (Spec.pad2 8 (macInput p hdr arqc atc ct)) ≠ mac then none else
    let blk := match p.enc with
      | .visa => C07.unframeVisa (ecbUpdate (tdesD skC) ct)
      | .mastercard => some (cbcDecUpdate (tdesD skC) (zeros 8) ct).1
      | _ => none
    blk.map (unPin (usesVis p cur) card.ac cur)
  | _, _ => none

theorem smKey_ok (p : Profile) (mk arqc atc : Bytes) (hmk : mk.length = 16) (hq : arqc.length = 8) (ha : atc.length = 2) :
    ∃ sk, smKey p mk arqc atc = .ok sk ∧ sk.length = 16 := by
  unfold smKey
  cases p.smSk with
  | visaAtc =>
    have h := C04.visa_sk_eq_spec mk atc hmk ha
    exact ⟨_, h, (C13.visa_sk_key mk atc _ h).1⟩
  | commonArqc =>
    have h := C04.common_sk_eq_spec mk arqc hmk hq
    exact ⟨_, h, (C13.common_sk_key mk arqc _ h).1⟩

theorem pinBlock_eq (p : Profile) (card : Card) (pin : StrOrBytes) (cur : Option PyStr) :
    pinBlock p card pin (cur.map .str) =
      if usesVis p cur then formatVisPinBlock card.ac pin (cur.map .str) else formatIso2PinBlock pin := by
  unfold pinBlock usesVis; cases p.pin <;> cases cur <;> rfl

/-- the PIN layer: every profile builds an 8-byte block from which `unPin` reads back the PIN -/
theorem pinBlock_ok (p : Profile) (card : Card) (pin : PyStr) (cur : Option PyStr) (hac : card.ac.length = 16)
    (hp : C12.ValidPin pin) (hc : ∀ c, cur = some c → C12.ValidPin c) :
    ∃ blk, pinBlock p card (.str pin) (cur.map .str) = .ok blk ∧ blk.length = 8 ∧
      unPin (usesVis p cur) card.ac cur blk = pin := by
  have hL : pin.length ≤ 12 := hp.2.1
  rw [pinBlock_eq]
  cases usesVis p cur
  · obtain ⟨blk, h, hl, hh, ht, _⟩ := C12.iso2_recovers pin hp
    refine ⟨blk, h, hl, ?_⟩
    simp only [unPin, Bool.false_eq_true, if_false, hh]
    rw [show (0x20 + pin.length) % 16 = pin.length by omega]; exact ht
  · obtain ⟨blk, body, cb, h, hl, -, hx, hcb, hplain⟩ := C12.vis_recovers card.ac pin cur hac hp hc
    refine ⟨blk, h, hl, ?_⟩
    -- `curBlockOf cur` is the current-PIN block that `vis_recovers` speaks of
    have hpl : C12.visPlain blk card.ac cur (curBlockOf cur) = UInt8.ofNat pin.length :: body := by
      cases cur with
      | none => exact hplain
      | some c => rw [curBlockOf, (hcb c rfl).1]; exact hplain
    simp only [unPin, if_true, hpl, List.headD_cons, List.tail_cons, UInt8.toNat_ofNat', hx]
    rw [show pin.length % 256 % 16 = pin.length by omega]
    exact List.take_left' rfl

theorem pinHeader_length (p : Profile) (cur : Option StrOrBytes) : (pinHeader p cur).length = 5 := by
  unfold pinHeader; cases p.hdr <;> cases cur <;> rfl

/-- the encipherment layer: a consistent profile turns the 8-byte PIN block into the `Lc − 8` bytes its header
announces, and the card's decipherment and unframing give the block back -/
theorem encrypt_ok (p : Profile) (cur : Option StrOrBytes) (sk blk : Bytes) (hcons : Consistent p)
    (hsk : sk.length = 16) (hbl : blk.length = 8) :
    ∃ ct, encryptCommandData sk blk p.enc = .ok ct ∧ ((pinHeader p cur).getD 4 0).toNat = ct.length + 8 ∧
      (match p.enc with
        | .visa => C07.unframeVisa (ecbUpdate (tdesD sk) ct)
        | .mastercard => some (cbcDecUpdate (tdesD sk) (zeros 8) ct).1
        | _ => none) = some blk := by
  rcases hcons with ⟨he, hh⟩ | ⟨he, hh⟩ <;> rw [he]
  · refine ⟨_, C07.enc_visa_eq sk blk hsk (by omega), ?_, ?_⟩
    · rw [(C07.ct_length sk blk).1, hbl]; unfold pinHeader; rw [hh]; cases cur <;> rfl
    · rw [C07.ecb_decrypts sk _ (C07.frame_lengths blk).1]; exact C07.unframe_visa blk (by omega)
  · refine ⟨_, C07.enc_mc_eq sk blk hsk, ?_, ?_⟩
    · rw [(C07.ct_length sk blk).2.2, hbl]; unfold pinHeader; rw [hh]; rfl
    · -- an 8-byte block is block aligned: its frame is the block itself
      have hmf : C07.mcFrame blk = blk := by simp [C07.mcFrame, hbl]
      rw [C07.cbc_decrypts sk _ (C07.frame_lengths blk).2.2, hmf]

/-- the MAC layer: Algorithm 3 under the halves of the integrity session key, over the method-2 padded MAC input -/
theorem commandMac_eq (p : Profile) (card : Card) (hdr arqc atc d skI : Bytes) (hk : smKey p card.smi arqc atc = .ok skI)
    (hl : skI.length = 16) :
    commandMac p card hdr arqc atc d = .ok (alg3 (skI.take 8) (skI.drop 8) (Spec.pad2 8 (macInput p hdr arqc atc d))) := by
  rw [commandMac, hk, ok_bind, C06.command_mac_eq_spec skI _ (some 8) hl, Option.getD_some, alg3_take_8]

/-- **Every PIN-change command** of a consistent profile (all eight rows are): it is
header ‖ ciphertext ‖ 8-byte MAC, its Lc byte equals the bytes that follow, and a card holding the same
keys verifies the MAC, deciphers, unframes and recovers exactly the new PIN. -/
theorem card_accepts_and_recovers (p : Profile) (card : Card) (pin : PyStr) (cur : Option PyStr) (arqc atc : Bytes)
    (hcons : Consistent p) (hac : card.ac.length = 16) (hsmi : card.smi.length = 16) (hsmc : card.smc.length = 16)
    (hq : arqc.length = 8) (ha : atc.length = 2) (hp : C12.ValidPin pin) (hc : ∀ c, cur = some c → C12.ValidPin c) :
    ∃ hdr ct mac, pinChange p card (.str pin) arqc atc (cur.map .str) = .ok (hdr ++ ct ++ mac) ∧
      hdr = pinHeader p (cur.map .str) ∧ hdr.length = 5 ∧ mac.length = 8 ∧ (hdr.getD 4 0).toNat = ct.length + mac.length ∧
      cardProcess p card arqc atc (hdr ++ ct ++ mac) cur = some pin := by
  obtain ⟨blk, hblk, hbl, hun⟩ := pinBlock_ok p card pin cur hac hp hc
  obtain ⟨skI, hkI, hlI⟩ := smKey_ok p card.smi arqc atc hsmi hq ha
  obtain ⟨skC, hkC, hlC⟩ := smKey_ok p card.smc arqc atc hsmc hq ha
  obtain ⟨ct, hce, hLc, hdec⟩ := encrypt_ok p (cur.map .str) skC blk hcons hlC hbl
  have hhl := pinHeader_length p (cur.map .str)
  have hmac := commandMac_eq p card (pinHeader p (cur.map .str)) arqc atc ct skI hkI hlI
  generalize hH : pinHeader p (cur.map .str) = hdr at hhl hLc hmac
  generalize hM : alg3 (skI.take 8) (skI.drop 8) (Spec.pad2 8 (macInput p hdr arqc atc ct)) = m at hmac
  have hml : m.length = 8 := by rw [← hM]; exact alg3_length _ _ _
  refine ⟨hdr, ct, m, ?_, rfl, hhl, hml, by rw [hml]; exact hLc, ?_⟩
  · simp only [pinChange, encrypt, hblk, hkC, hce, hH, hmac, ok_bind, pure_eq_ok]
  · -- the card splits the command where it was put together (`take_left'`, `drop_left'` at the header, `take_left`,
    -- `drop_left` at the ciphertext), and finds the MAC it recomputes
    simp only [cardProcess, List.append_assoc, List.take_left' hhl, List.drop_left' hhl, List.length_append, hml, hLc,
      Nat.add_sub_cancel, List.take_left, List.drop_left, ite_ne_self, hkI, hkC, hM, hdec, Option.map_some, hun]

/-- … in particular for an object built by the constructor, whose three keys have 16 bytes (C13) -/
theorem card_accepts_and_recovers_of_new (p : Profile) (k1 k2 k3 : Bytes) (pan : StrOrBytes) (psn : Option StrOrBytes)
    (card : Card) (pin : PyStr) (cur : Option PyStr) (arqc atc : Bytes) (hcons : Consistent p)
    (hnew : Cvn.new p k1 k2 k3 pan psn = .ok card) (hq : arqc.length = 8) (ha : atc.length = 2)
    (hp : C12.ValidPin pin) (hc : ∀ c, cur = some c → C12.ValidPin c) :
    ∃ hdr ct mac, pinChange p card (.str pin) arqc atc (cur.map .str) = .ok (hdr ++ ct ++ mac) ∧
      hdr.length = 5 ∧ mac.length = 8 ∧ (hdr.getD 4 0).toNat = ct.length + mac.length ∧
      cardProcess p card arqc atc (hdr ++ ct ++ mac) cur = some pin := by
  obtain ⟨h1, h2, h3⟩ := C13.ctor_keys p k1 k2 k3 pan psn card hnew
  obtain ⟨hdr, ct, mac, e, -, r⟩ :=
    card_accepts_and_recovers p card pin cur arqc atc hcons h1.1 h2.1 h3.1 hq ha hp hc
  exact ⟨hdr, ct, mac, e, r⟩

/-- the Lc byte of the Visa PIN-change header without a current PIN -/
theorem shape_example : (pinHeader ⟨.a, .none, .visa, false, 1, .none, .visaAtc, true, .visa, .visOnly, .visa⟩ none).getD 4 0 = 0x18 := rfl

end Pyemv.C08
