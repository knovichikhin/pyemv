import PyemvModel.Tlv
/-! # Python's `d[k] = v` on an insertion-ordered association list

`Dict.set` and `DictC.set` are the same function at two types of values; `assign` is that function for any type,
and what is known about assignment is proved about it. -/
namespace Pyemv.Tlv

def assign {N : Type} (d : List (Bytes × N)) (k : Bytes) (v : N) : List (Bytes × N) :=
  if d.any (fun p => p.1 == k) then d.map (fun p => if p.1 == k then (k, v) else p) else d ++ [(k, v)]

theorem Dict.set_eq (d : Dict) (k : Bytes) (v : Node) : d.set k v = assign d k v := rfl

theorem DictC.set_eq {α} (d : DictC α) (k : Bytes) (v : NodeC α) : d.set k v = assign d k v := rfl

variable {N : Type}

theorem assign_nil (k : Bytes) (v : N) : assign [] k v = [(k, v)] := rfl

/-- by recursion on the dictionary: the first entry under the key is replaced (and with it every later one),
otherwise the entry is kept and the assignment goes to the rest -/
theorem assign_cons (p : Bytes × N) (d : List (Bytes × N)) (k : Bytes) (v : N) :
    assign (p :: d) k v =
      if p.1 == k then (k, v) :: d.map (fun q => if q.1 == k then (k, v) else q) else p :: assign d k v := by
  unfold assign
  rw [List.any_cons, List.map_cons]
  cases p.1 == k <;> cases d.any (fun p => p.1 == k) <;> rfl

theorem assign_cons_ne {p : Bytes × N} {k : Bytes} (hne : p.1 ≠ k) (d : List (Bytes × N)) (v : N) :
    assign (p :: d) k v = p :: assign d k v := by
  rw [assign_cons, if_neg (by simpa using hne)]

theorem assign_absent (d : List (Bytes × N)) (k : Bytes) (v : N) (h : ∀ p ∈ d, p.1 ≠ k) :
    assign d k v = d ++ [(k, v)] := by
  refine if_neg fun ha => ?_
  obtain ⟨p, hp, hk⟩ := List.any_eq_true.mp ha
  exact h p hp (eq_of_beq hk)

/-- the step of a fold that assigns the keys of `x :: later` in turn, from a dictionary that has none of them,
when the key of `x` does not come again: the assignment appends, and the longer dictionary has none of the later keys -/
theorem assign_fresh {α : Type} {d : List (Bytes × N)} {t : Bytes} {x : α} {later : List α} {key : α → Bytes}
    (hdis : ∀ p ∈ d, ∀ i ∈ x :: later, key i ≠ p.1) (hne : ∀ i ∈ later, key i ≠ t) (hx : key x = t) (v : N) :
    assign d t v = d ++ [(t, v)] ∧ ∀ p ∈ d ++ [(t, v)], ∀ i ∈ later, key i ≠ p.1 := by
  refine ⟨assign_absent d t v fun p hp => hx ▸ (hdis p hp x (List.mem_cons_self ..)).symm, fun p hp i hi => ?_⟩
  rcases List.mem_append.mp hp with h | h
  · exact hdis p h i (List.mem_cons_of_mem _ hi)
  · cases List.mem_singleton.mp h; exact hne i hi

theorem assign_cons_self (k : Bytes) (v w : N) (rest : List (Bytes × N)) (h : ∀ p ∈ rest, p.1 ≠ k) :
    assign ((k, v) :: rest) k w = (k, w) :: rest := by
  rw [assign_cons, if_pos (beq_self_eq_true k)]
  congr 1
  refine (List.map_congr_left fun p hp => ?_).trans (List.map_id rest)
  exact if_neg (by simpa using h p hp)

theorem assign_keys_ne {d : List (Bytes × N)} {k t : Bytes} (hd : ∀ p ∈ d, p.1 ≠ t) (hk : k ≠ t) (v : N) :
    ∀ p ∈ assign d k v, p.1 ≠ t := by
  intro p hp
  unfold assign at hp
  split at hp
  · obtain ⟨q, hq, rfl⟩ := List.mem_map.mp hp
    split
    · exact hk
    · exact hd q hq
  · rcases List.mem_append.mp hp with h | h
    · exact hd p h
    · cases List.mem_singleton.mp h; exact hk

theorem find?_assign_self (d : List (Bytes × N)) (k : Bytes) (v : N) :
    (assign d k v).find? (fun p => p.1 == k) = some (k, v) := by
  induction d with
  | nil => simp only [assign_nil, List.find?_cons, beq_self_eq_true]
  | cons p d ih =>
    rw [assign_cons]
    split <;> simp only [List.find?_cons, beq_self_eq_true, *]

/-- a repeated assignment keeps the last value, in the place of the first -/
theorem assign_assign (d : List (Bytes × N)) (k : Bytes) (v w : N) : assign (assign d k v) k w = assign d k w := by
  induction d with
  | nil => simp only [assign_nil, assign_cons, beq_self_eq_true, if_true, List.map_nil]
  | cons p d ih =>
    by_cases hp : (p.1 == k) = true
    · simp only [assign_cons, hp, if_true, beq_self_eq_true, List.map_map]
      congr 1
      apply List.map_congr_left
      intro q _
      by_cases hq : (q.1 == k) = true <;> simp only [Function.comp, hq, if_true, beq_self_eq_true, Bool.false_eq_true, if_false]
    · simp only [assign_cons, hp, Bool.false_eq_true, if_false, ih]

theorem map_assign {M : Type} {f : Bytes × N → Bytes × M} (hf : ∀ p, (f p).1 = p.1) (d : List (Bytes × N)) (k : Bytes)
    (v : N) : (assign d k v).map f = assign (d.map f) k (f (k, v)).2 := by
  have hkv : f (k, v) = (k, (f (k, v)).2) := Prod.ext (hf _) rfl
  induction d with
  | nil => simp only [assign_nil, List.map_cons, List.map_nil, ← hkv]
  | cons p d ih =>
    simp only [List.map_cons, assign_cons, hf, apply_ite (List.map f), List.map_map, ih, ← hkv]
    congr 3
    funext q
    simp only [Function.comp, hf, apply_ite f]

end Pyemv.Tlv
