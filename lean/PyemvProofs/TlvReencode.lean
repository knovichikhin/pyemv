import PyemvProofs.TlvEncode
import PyemvProofs.Hex
/-! # Re-encoding a decoded tree: canonical input is reproduced byte for byte -/
namespace Pyemv.Tlv
open Pyemv.TlvSpec Pyemv.RoundTrip Pyemv.Refine

theorem hexDigitUpper_not_space : ∀ k : Fin 16, isPySpace (hexDigitUpper k.val) = false := by decide

theorem bytesFromHexAux_hexUpper : ∀ (b : Bytes) (fuel : Nat), b.length < fuel → bytesFromHexAux fuel (hexUpper b) = .ok b
  | [], fuel + 1, _ => rfl
  | x :: xs, fuel + 1, h => by
    have hsp := hexDigitUpper_not_space ⟨x.toNat / 16, Nat.div_lt_of_lt_mul x.toNat_lt⟩
    have hhi := hexVal_hexDigitUpper ⟨x.toNat / 16, Nat.div_lt_of_lt_mul x.toNat_lt⟩
    have hlo := hexVal_hexDigitUpper ⟨x.toNat % 16, Nat.mod_lt _ (by decide)⟩
    have ih := bytesFromHexAux_hexUpper xs fuel (Nat.lt_of_succ_lt_succ h)
    rw [hexUpper, List.flatMap_cons, ← hexUpper]
    -- the pair of digits of `x` is read as `16 * (x / 16) + x % 16`
    simp only [bytesFromHexAux, List.cons_append, List.nil_append, List.dropWhile_cons, hsp, Bool.false_eq_true, if_false,
      hhi, hlo, ih, ok_bind, pure_eq_ok, Nat.div_add_mod, UInt8.ofNat_toNat]

theorem bytesFromHex_hexUpper (b : Bytes) : bytesFromHex (hexUpper b) = .ok b :=
  bytesFromHexAux_hexUpper b _ (by rw [hexUpper_length]; omega)

theorem tagOfName_hexUpper (t : Bytes) (h : ValidTag t) : tagOfName (hexUpper t) = some t :=
  tagOfName_eq_some.mpr ⟨bytesFromHex_hexUpper t, h⟩

mutual
/-- the tree `decode` hands to the caller for a CST without repeated tags: hex names in upper case, values as bytes -/
def treeOfItem : Item → PyStr × PyVal
  | .prim t _ v => (hexUpper t, .bytes v)
  | .cons t _ kids => (hexUpper t, .dict (treeOfItems kids))
def treeOfItems : List Item → List (PyStr × PyVal)
  | [] => []
  | i :: more => treeOfItem i :: treeOfItems more
end

/-- canonical length fields throughout (the shortest definite form) -/
inductive CanonLens (si : Bool) : List Item → Prop
  | nil : CanonLens si []
  | prim {t l v more} : l = berLen si v.length → CanonLens si more → CanonLens si (.prim t l v :: more)
  | cons {t l kids more} : l = berLen si (printItems kids).length → CanonLens si kids → CanonLens si more →
      CanonLens si (.cons t l kids :: more)

/-- well-formed items with canonical lengths mirror the tree they denote -/
theorem mirror_treeOfItems (si : Bool) (items : List Item) (hc : CanonLens si items) :
    (∀ i ∈ items, WF si i) → Mirror si (treeOfItems items) items := by
  induction hc with
  | nil => intro _; simp only [treeOfItems]; exact Mirror.nil
  | @prim t l v more hl _ ih =>
    intro hwf
    obtain ⟨hw, hwm⟩ := List.forall_mem_cons.mp hwf
    cases hw with
    | prim hvt hp _ => subst hl; exact Mirror.bytes (tagOfName_hexUpper t hvt) hp (ih hwm)
  | @cons t l kids more hl _ _ ihk ihm =>
    intro hwf
    obtain ⟨hw, hwm⟩ := List.forall_mem_cons.mp hwf
    cases hw with
    | cons hvt hp hkw _ => subst hl; exact Mirror.dict (tagOfName_hexUpper t hvt) hp (ihk hkw) (ihm hwm)

/-- **re-encoding reproduces canonical input byte for byte**: for well-formed items with shortest
length fields, encoding the tree they denote gives back exactly their serialisation -/
theorem encode_treeOfItems (si : Bool) (items : List Item) (hwf : ∀ i ∈ items, WF si i) (hc : CanonLens si items) :
    encode si (treeOfItems items) = .ok (printItems items) :=
  mirror_encodes (mirror_treeOfItems si items hc hwf) hwf

def itemTag : Item → Bytes
  | .prim t _ _ => t
  | .cons t _ _ => t

/-- no tag repeats within a template, at any depth -/
inductive Distinct : List Item → Prop
  | nil : Distinct []
  | prim {t l v more} : (∀ i ∈ more, itemTag i ≠ t) → Distinct more → Distinct (.prim t l v :: more)
  | cons {t l kids more} : (∀ i ∈ more, itemTag i ≠ t) → Distinct kids → Distinct more → Distinct (.cons t l kids :: more)

mutual
def treeOfNode : Node → PyVal
  | .prim v => .bytes v
  | .cons kids => .dict (treeOfDict kids)
def treeOfEntry : Bytes × Node → PyStr × PyVal
  | (k, n) => (hexUpper k, treeOfNode n)
/-- the tree the decoder hands to the caller: hex names in upper case, values as bytes -/
def treeOfDict : List (Bytes × Node) → List (PyStr × PyVal)
  | [] => []
  | e :: rest => treeOfEntry e :: treeOfDict rest
end

theorem treeOfDict_append (a b : Dict) : treeOfDict (a ++ b) = treeOfDict a ++ treeOfDict b := by
  induction a with
  | nil => simp [treeOfDict]
  | cons e rest ih => simp [treeOfDict, ih]

/-- with distinct tags the nested fold keeps every object, in order -/
theorem absNested_distinct (items : List Item) (hd : Distinct items) :
    ∀ (dec : Dict), (∀ p ∈ dec, ∀ i ∈ items, itemTag i ≠ p.1) →
      treeOfDict (absNested dec items) = treeOfDict dec ++ treeOfItems items := by
  induction hd with
  | nil => intro dec _; simp [absNested, treeOfItems]
  | @prim t l v more hne _ ih =>
    intro dec hdis
    obtain ⟨e, hdis'⟩ := assign_fresh hdis hne rfl (Node.prim v)
    simp only [absNested]
    rw [Dict.set_eq, e, ih _ hdis']
    simp [treeOfDict_append, treeOfDict, treeOfEntry, treeOfNode, treeOfItems, treeOfItem]
  | @cons t l kids more hne _ _ ihk ih =>
    intro dec hdis
    obtain ⟨e, hdis'⟩ := assign_fresh hdis hne rfl (Node.cons (absNested [] kids))
    simp only [absNested]
    rw [Dict.set_eq, e, ih _ hdis']
    have hk : treeOfDict (absNested [] kids) = treeOfItems kids := ihk [] nofun
    simp [treeOfDict_append, treeOfDict, treeOfEntry, treeOfNode, treeOfItems, treeOfItem, hk]

end Pyemv.Tlv
