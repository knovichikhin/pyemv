import PyemvModel
import PyemvProofs.DesFast
import PyemvProofs.Sha1Fast
import PyemvProofs.KatAttr
/-! The simp set `kat`: the model's functions between an operation of the library and DES or SHA-1, and at the end of
the paths the three equations that put the kernel twins for `Des.crypt`, `Des.subkeys` and `Sha1.processBlock`. -/
namespace Pyemv

/-- `encBlock ks` is handed to `ecbUpdate` and `cbcEncUpdate` without its last argument, where the equation of
`encBlock` does not apply -/
@[kat] theorem encBlock_fun : encBlock = fun ks b => toBE 8 (encBlockN ks (fromBE b)) := rfl

@[kat] theorem decBlock_fun : decBlock = fun ks b => toBE 8 (decBlockN ks (fromBE b)) := rfl

-- a model function on a path to DES or SHA-1 that is missing here leaves its calls to the model's own evaluation:
-- the known answer still checks, only slowly
attribute [kat] Des.crypt_eq_fast Des.subkeys_eq_fast Sha1.processBlock_eq_fast Des.enc Des.dec Sha1.sha1 Sha1.compress
  encBlockN decBlockN tdesKeys keyCheckDigits encryptTdesEcb encryptTdesCbc macCore mac3
  generateAc generateArpc1 generateArpc2 keyFromData deriveIccMkA sha1Hex deriveIccMkB deriveCommonSk
  treeDerive treeWalk deriveEmv2000TreeSk generateCommandMac encryptCommandData generateCvc3

end Pyemv
