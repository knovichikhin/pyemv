import PyemvProofs.Kat
/-! Rivest's test of a DES implementation ("Testing implementations of DES", 1985): starting from
`X₀ = 9474B8E8C73BCA7D`, `X_{i+1} = E_{X_i}(X_i)` for even `i` and `D_{X_i}(X_i)` for odd `i`; a correct DES ends at
`X₁₆ = 1B1A2DDB4C642438`.  The sequence is designed so that an error in any single S-box entry, permutation entry or
shift changes the result.  Evaluated here *in the kernel* (no compiler) on the Lean DES of the Impl layer, in the
form `Des.Fast` that `PyemvProofs/DesFast` proves equal to it:
a test, labelled as a test — it anchors the hand-modelled DES to a published value besides OpenSSL. -/
namespace Pyemv.Kat

def rivestStep (x : Nat) (i : Nat) : Nat := if i % 2 = 0 then Des.enc x x else Des.dec x x

example : (List.range 16).foldl rivestStep 0x9474B8E8C73BCA7D = 0x1B1A2DDB4C642438 := by delta rivestStep; simp only [kat]; decide +kernel

/-- the sixteen intermediate values, as published -/
example : (List.range 8).foldl rivestStep 0x9474B8E8C73BCA7D = 0xC1576A14DE707097 := by delta rivestStep; simp only [kat]; decide +kernel

end Pyemv.Kat
