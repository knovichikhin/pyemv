import PyemvGen.Mod.ac_generate_arpc_1
import PyemvProps.C02
/-! Generated by lean/mk_source.py (committed). C02 restated about the definitions translated from the
repository's source on this run (`Pyemv.Gen.*`), by the refinement theorem(s) ac_generate_arpc_1. -/
namespace Pyemv.C02.Source
open Spec

theorem arpc1_eq_spec (sk arqc rc : Bytes) (hsk : sk.length = 16) (hq : arqc.length = 8) (hrc : rc.length = 2) :
    Gen.ac.generate_arpc_1 sk arqc rc = .ok (tdesE sk (xorB arqc (rc ++ zeros 6))) := by
  simp only [ModRefines.ac_generate_arpc_1]
  exact _root_.Pyemv.C02.arpc1_eq_spec sk arqc rc hsk hq hrc

end Pyemv.C02.Source
