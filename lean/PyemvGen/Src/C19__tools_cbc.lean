import PyemvGen.Mod.tools_cbc
import PyemvProps.C19
/-! Generated by lean/mk_source.py (committed). C19 restated about the definitions translated from the
repository's source on this run (`Pyemv.Gen.*`), by the refinement theorem(s) tools_cbc. -/
namespace Pyemv.C19.Source
open Spec

theorem cbc_roundtrip (key iv d : Bytes) (ks : Ks) (n : Nat) (hk : tdesKeys key = .ok ks) (hiv : iv.length = 8)
    (hd : d.length = 8 * n) :
    ∃ c, Gen.tools.encrypt_tdes_cbc key iv d = .ok c ∧ c.length = 8 * n ∧ (cbcDecUpdate (decBlock ks) iv c).1 = d := by
  simp only [ModRefines.tools_cbc]
  exact _root_.Pyemv.C19.cbc_roundtrip key iv d ks n hk hiv hd

end Pyemv.C19.Source
