import PyemvSpec.TlvGrammar
/-! # One header: the offset-and-limit reader `readHeader` against the grammar's `header` on the region -/
namespace Pyemv.Refine
open Pyemv.Tlv Pyemv.TlvSpec

theorem slice_length {data : Bytes} {a b : Nat} (hb : b ≤ data.length) : (slice data a b).length = b - a := by
  unfold slice
  rw [List.length_take, List.length_drop, Nat.min_eq_left (Nat.sub_le_sub_right hb a)]

theorem slice_nil {data : Bytes} {a b : Nat} (h : b ≤ a) : slice data a b = [] := by
  unfold slice
  rw [Nat.sub_eq_zero_of_le h, List.take_zero]

theorem slice_getElem? {data : Bytes} {a b i : Nat} (hi : a + i < b) :
    (slice data a b)[i]? = data[a + i]? := by
  unfold slice
  rw [List.getElem?_take_of_lt (Nat.lt_sub_iff_add_lt'.mpr hi), List.getElem?_drop]

theorem slice_drop {data : Bytes} {a b k : Nat} : (slice data a b).drop k = slice data (a + k) b := by
  unfold slice
  rw [List.drop_take, List.drop_drop, Nat.sub_sub]

theorem slice_take {data : Bytes} {a b k : Nat} (h : a + k ≤ b) : (slice data a b).take k = slice data a (a + k) := by
  unfold slice
  rw [List.take_take, Nat.add_sub_cancel_left, Nat.min_eq_left (by omega)]

theorem slice_cons {data : Bytes} {a b : Nat} {x : UInt8} (hx : data[a]? = some x) (hab : a < b) :
    slice data a b = x :: slice data (a + 1) b := by
  obtain ⟨hlt, rfl⟩ := List.getElem?_eq_some_iff.mp hx
  unfold slice
  rw [List.drop_eq_getElem_cons hlt, show b - a = b - (a + 1) + 1 by omega, List.take_succ_cons]

/-- data from `a` on = the part inside the parent ++ the part beyond it -/
theorem drop_eq_slice_append {data : Bytes} {a b : Nat} (hab : a ≤ b) :
    data.drop a = slice data a b ++ data.drop b := by
  refine (List.take_append_drop (b - a) (data.drop a)).symm.trans ?_
  rw [List.drop_drop, Nat.add_sub_of_le hab]
  rfl

theorem getElem?_some_of_lt {data : Bytes} {i : Nat} (h : i < data.length) : ∃ x, data[i]? = some x :=
  ⟨data[i], List.getElem?_eq_getElem h⟩

theorem scanCont_eq_scanList (data : Bytes) (ofs : Nat) :
    ∀ fuel n, data.length < fuel + (ofs + n) → scanCont fuel data ofs n = scanList (data.drop (ofs + n)) n := by
  intro fuel
  induction fuel with
  | zero => intro n h; rw [List.drop_eq_nil_of_le (by omega)]; rfl
  | succ f ih =>
    intro n h
    unfold scanCont
    rcases Nat.lt_or_ge (ofs + n) data.length with hlt | hge
    · rw [List.getElem?_eq_getElem hlt, List.drop_eq_getElem_cons hlt, scanList, ih (n + 1) (by omega), Nat.add_assoc]
    · rw [List.getElem?_eq_none hge, List.drop_eq_nil_of_le hge]
      rfl

/-- a scan that ends inside `p` does not look at `s`; one that runs out of `p` goes on in `s` -/
theorem scanList_append (p s : Bytes) (n : Nat) :
    scanList (p ++ s) n = match scanList p n with
      | (some m, k) => (some m, k)
      | (none, k) => scanList s k := by
  induction p generalizing n with
  | nil => rfl
  | cons b rest ih =>
    simp only [List.cons_append, scanList]
    split
    · exact ih _
    · rfl

theorem scanList_none {s : Bytes} {n k : Nat} (h : scanList s n = (none, k)) : k = n + s.length := by
  induction s generalizing n with
  | nil => cases h; rfl
  | cons b rest ih =>
    unfold scanList at h
    split at h
    · rw [ih h, List.length_cons]; omega
    · cases h

/-- How the tag a `DecodeError` names relates to the grammar's fault: for a fault in the tag itself the code has read on
past the parent's end, so its tag extends the grammar's (the part inside the parent) and is read from the input at the
offset; for a length or value fault it is the complete tag. -/
def TagRel (data : Bytes) (g : GErr) (e : DErr) : Prop :=
  match g.kind with
  | .tag => g.tagRegion <+: e.tag ∧ e.tag <+: data.drop e.ofs
  | _ => e.tag = g.tagRegion

theorem tagRel_tag {data : Bytes} {g : GErr} {e : DErr} (h : g.kind = .tag) :
    TagRel data g e ↔ g.tagRegion <+: e.tag ∧ e.tag <+: data.drop e.ofs := by
  rw [TagRel, h]

theorem tagRel_ne {data : Bytes} {g : GErr} {e : DErr} (h : g.kind ≠ .tag) : TagRel data g e ↔ e.tag = g.tagRegion := by
  rw [TagRel]
  split
  · contradiction
  · exact Iff.rfl

/-- a tag scan that left the parent reports a tag that starts with the whole region -/
theorem tagRel_beyond {data : Bytes} {ofs lim j : Nat} (h : lim ≤ j) :
    TagRel data ⟨.tag, ofs, slice data ofs lim⟩ ⟨.tag, slice data ofs j, ofs⟩ :=
  ⟨List.take_prefix_take_left (Nat.sub_le_sub_right h ofs), List.take_prefix _ _⟩

/-- the code's outcome that corresponds to the grammar's: the value's offset instead of the header's size -/
def toHdr (c : Bool) (ofs : Nat) : Except GErr Hd → Hdr
  | .ok hd => .ok hd.tag c (ofs + hd.h) hd.ln
  | .error g => .err ⟨g.kind, g.tagRegion, g.ofs⟩

theorem toHdr_ok (c : Bool) (ofs : Nat) (hd : Hd) : toHdr c ofs (.ok hd) = .ok hd.tag c (ofs + hd.h) hd.ln := rfl

theorem toHdr_ne_crash (c : Bool) (ofs : Nat) (r : Except GErr Hd) : toHdr c ofs r ≠ .crash := by cases r <;> nofun

/-- `afterTag` compares offsets with the limit, `lenPart` sizes with what is left of the region -/
theorem afterTag_eq {simple : Bool} {data : Bytes} {lim : Nat} {c : Bool} {tag : Bytes} {ofs n : Nat}
    (hl : lim ≤ data.length) :
    afterTag simple data lim c tag (ofs + n) =
      toHdr c ofs (lenPart simple (ofs + n) n tag (slice data (ofs + n) lim)) := by
  rcases Nat.lt_or_ge (ofs + n) lim with hlt | hge
  · obtain ⟨lb, hlb⟩ := getElem?_some_of_lt (Nat.lt_of_lt_of_le hlt hl)
    have g : ∀ k, (ofs + n + 1 + k > lim) = (k > lim - (ofs + n + 1)) := fun k =>
      propext (Nat.sub_lt_iff_lt_add' hlt).symm
    rw [slice_cons hlb hlt]
    unfold lenPart afterTag
    simp only [hlb, slice_length hl, if_neg (Nat.not_lt.mpr hlt), g, apply_ite (toHdr c ofs)]
    -- both sides are now `if long form then (if length bytes missing then _ else ?_) else _` with equal guards;
    -- only what follows the length bytes is still written in two ways
    refine ite_congr rfl (fun _ => ite_congr rfl (fun _ => rfl) fun h2 => ?_) fun _ => rfl
    have h2 := Nat.le_of_not_gt h2
    rw [slice_take (show ofs + n + 1 + _ ≤ lim from Nat.add_le_of_le_sub' hlt h2)]
    refine ite_congr ?_ (fun _ => rfl) fun _ => by simp only [toHdr_ok, Nat.add_assoc]
    rw [Nat.add_assoc (ofs + n + 1), g]
    exact propext (Nat.sub_lt_iff_lt_add' h2).symm
  · rw [slice_nil hge]
    unfold lenPart afterTag
    rw [if_pos (Nat.lt_succ_of_le hge)]
    rfl

/-- `readHeader` on offsets against the grammar's `header` on the region: the same tag, constructed bit, value offset and
length, or the grammar's fault kind and offset with a tag in `TagRel` -/
def HeaderRefines (simple : Bool) (data : Bytes) (ofs lim : Nat) : Prop :=
  match header simple ofs (slice data ofs lim) with
  | .ok hd => readHeader simple data ofs lim =
      .ok hd.tag ((slice data ofs lim).headD 0 &&& 0x20 != 0) (ofs + hd.h) hd.ln
  | .error g => ∃ tag, readHeader simple data ofs lim = .err ⟨g.kind, tag, g.ofs⟩ ∧ TagRel data g ⟨g.kind, tag, g.ofs⟩

theorem HeaderRefines.ok {simple : Bool} {data : Bytes} {ofs lim : Nat} {hd : Hd} (h : HeaderRefines simple data ofs lim)
    (hh : header simple ofs (slice data ofs lim) = .ok hd) :
    readHeader simple data ofs lim = .ok hd.tag ((slice data ofs lim).headD 0 &&& 0x20 != 0) (ofs + hd.h) hd.ln := by
  rwa [HeaderRefines, hh] at h

theorem HeaderRefines.err {simple : Bool} {data : Bytes} {ofs lim : Nat} {g : GErr} (h : HeaderRefines simple data ofs lim)
    (hh : header simple ofs (slice data ofs lim) = .error g) :
    ∃ tag, readHeader simple data ofs lim = .err ⟨g.kind, tag, g.ofs⟩ ∧ TagRel data g ⟨g.kind, tag, g.ofs⟩ := by
  rwa [HeaderRefines, hh] at h

theorem readHeader_known_tag {simple : Bool} {data : Bytes} {ofs lim : Nat} {b0 : UInt8} {n k : Nat}
    (hl : lim ≤ data.length) (hb0 : data[ofs]? = some b0) (hhead : (slice data ofs lim).headD 0 = b0)
    (hn : ofs + n ≤ lim) (hscan : scanTag data ofs b0 = (some n, k))
    (htl : tagLen (slice data ofs lim) = some n) : HeaderRefines simple data ofs lim := by
  unfold HeaderRefines header readHeader
  simp only [htl, hb0, hscan, hhead, if_neg (Nat.not_lt.mpr hn)]
  rw [slice_take hn, slice_drop, afterTag_eq hl]
  cases h : lenPart simple (ofs + n) n (slice data ofs (ofs + n)) (slice data (ofs + n) lim) with
  | ok hd => rfl
  | error g =>
    -- a fault of the length or the value names the complete tag
    obtain ⟨k, _, e, hk⟩ | ⟨_, _, _, _, _, e, _⟩ :=
      lenPart_cases simple (ofs + n) n (slice data ofs (ofs + n)) (slice data (ofs + n) lim)
    · rw [e] at h; cases h; exact ⟨_, rfl, (tagRel_ne hk).mpr rfl⟩
    · rw [e] at h; cases h

theorem readHeader_refines {simple : Bool} {data : Bytes} {ofs lim : Nat}
    (hl : lim ≤ data.length) (ho : ofs < lim) :
    HeaderRefines simple data ofs lim := by
  obtain ⟨b0, hb0⟩ := getElem?_some_of_lt (Nat.lt_of_lt_of_le ho hl)
  have hr : slice data ofs lim = b0 :: slice data (ofs + 1) lim := slice_cons hb0 ho
  have hhead : (slice data ofs lim).headD 0 = b0 := by rw [hr]; rfl
  by_cases hmulti : (b0 &&& 0x1F == 0x1F) = true
  · -- the scan does not stop at the limit: it sees the region and then the data beyond it
    have hsc : scanTag data ofs b0 = scanList (slice data (ofs + 1) lim ++ data.drop lim) 1 := by
      rw [scanTag, if_pos hmulti, scanCont_eq_scanList data ofs _ 1 (by omega), drop_eq_slice_append (Nat.succ_le_of_lt ho)]
    have htl : tagLen (slice data ofs lim) = (scanList (slice data (ofs + 1) lim) 1).1 := by
      rw [hr, tagLen, if_pos hmulti]
    have hlen : ofs + (1 + (slice data (ofs + 1) lim).length) = lim := by
      rw [slice_length hl, ← Nat.add_assoc, Nat.add_sub_of_le ho]
    rw [scanList_append] at hsc
    rcases hs : scanList (slice data (ofs + 1) lim) 1 with ⟨_ | m, k⟩ <;> rw [hs] at hsc htl
    · -- the tag does not end inside the region: the code reads on and reports what it has read
      have hk : ofs + k = lim := by rw [scanList_none hs, hlen]
      unfold HeaderRefines header readHeader
      simp only [htl, hb0, hsc]
      rcases hs2 : scanList (data.drop lim) k with ⟨_ | m, k2⟩
      · refine ⟨_, rfl, tagRel_beyond ?_⟩
        rw [scanList_none hs2, ← Nat.add_assoc, hk]
        exact Nat.le_add_right _ _
      · have hm : ofs + m > lim := hk ▸ Nat.add_lt_add_left (scanList_some hs2).1 ofs
        simp only [if_pos hm]
        exact ⟨_, rfl, tagRel_beyond (Nat.le_min.mpr ⟨Nat.le_of_lt hm, Nat.le_refl _⟩)⟩
    · exact readHeader_known_tag hl hb0 hhead (hlen ▸ Nat.add_le_add_left (scanList_some hs).2 ofs) hsc htl
  · exact readHeader_known_tag hl hb0 hhead (Nat.succ_le_of_lt ho) (by rw [scanTag, if_neg hmulti])
      (by rw [hr, tagLen, if_neg hmulti])

end Pyemv.Refine

namespace Pyemv.Tlv
open Pyemv.Refine

/-! ### what a header that was read guarantees: the object ends inside its parent, and no index is out of range -/

theorem scanCont_some (fuel : Nat) (data : Bytes) (ofs n m k : Nat)
    (h : scanCont fuel data ofs n = (some m, k)) : n + 1 ≤ m := by
  induction fuel generalizing n with
  | zero => simp [scanCont] at h
  | succ f ih =>
    unfold scanCont at h
    split at h
    · simp at h
    · split at h
      · have := ih (n+1) h; omega
      · simp at h; omega

theorem scanTag_some {data ofs b0 n k} (h : scanTag data ofs b0 = (some n, k)) : 1 ≤ n := by
  unfold scanTag at h
  split at h
  · have := scanCont_some _ _ _ _ _ _ h; omega
  · simp at h; omega

theorem afterTag_ok {simple data lim c tag o1 tag' c' vo tlen}
    (h : afterTag simple data lim c tag o1 = .ok tag' c' vo tlen) : o1 + 1 ≤ vo ∧ vo + tlen ≤ lim := by
  unfold afterTag at h
  grind

/-- A successfully read header consumes at least two bytes and its value ends inside the parent. -/
theorem readHeader_ok {simple data ofs lim tag c vo tlen}
    (h : readHeader simple data ofs lim = .ok tag c vo tlen) : ofs + 2 ≤ vo ∧ vo + tlen ≤ lim := by
  unfold readHeader at h
  split at h
  · simp at h
  · split at h
    · simp at h
    · rename_i hs
      have := scanTag_some hs
      split at h
      · simp at h
      · have := afterTag_ok h; omega

theorem afterTag_ne_crash {simple data lim c tag o1} (hl : lim ≤ data.length) :
    afterTag simple data lim c tag o1 ≠ .crash := by
  -- `o1` is `o1 + 0`: the tag's length does not matter here
  rw [show afterTag simple data lim c tag o1 = _ from afterTag_eq (n := 0) hl]
  exact toHdr_ne_crash _ _ _

/-- Inside the parent (and the parent inside the data) the length byte is always readable:
the only unguarded index in tlv.py can never raise IndexError. -/
theorem readHeader_ne_crash {simple data ofs lim} (hl : lim ≤ data.length) :
    readHeader simple data ofs lim ≠ .crash := by
  unfold readHeader
  split
  · simp
  · split
    · simp
    · split
      · simp
      · exact afterTag_ne_crash hl

end Pyemv.Tlv
