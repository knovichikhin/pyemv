import PyemvGen.Mod.Common
namespace Pyemv.ModRefines
open Pyemv.Gen

theorem tools_cbc (k iv d : Bytes) : Gen.tools.encrypt_tdes_cbc k iv d = encryptTdesCbc k iv d := by
  unfold Gen.tools.encrypt_tdes_cbc encryptTdesCbc
  simp only [throw_eq, pure_eq_ok, ok_bind, error_bind, bind_ok, except_match_eta]
  same_guards

end Pyemv.ModRefines
