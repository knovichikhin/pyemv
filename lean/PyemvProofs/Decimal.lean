import PyemvModel.Py
/-! # `str(n)` and `zfill(k)`: the `k` decimal digits of a number below `10^k` -/
namespace Pyemv

theorem strOfNatAux_fuel (f1 f2 n : Nat) (h1 : n < f1) (h2 : n < f2) : strOfNatAux f1 n = strOfNatAux f2 n := by
  induction f1 generalizing f2 n with
  | zero => omega
  | succ f1 ih =>
    obtain ⟨f2, rfl⟩ := Nat.exists_eq_succ_of_ne_zero (Nat.ne_of_gt (Nat.zero_lt_of_lt h2))
    rw [strOfNatAux, strOfNatAux]
    split
    · rfl
    · rw [ih f2 (n / 10) (by omega) (by omega)]

/-- the recursion equation of `str(n)` -/
theorem pyStr_eq (n : Nat) : pyStr n = if n < 10 then [decDigit n] else pyStr (n / 10) ++ [decDigit n] := by
  unfold pyStr
  rw [strOfNatAux]
  split
  · rfl
  · rw [strOfNatAux_fuel n (n / 10 + 1) (n / 10) (by omega) (by omega)]

theorem decDigit_mod_mul (v k : Nat) : decDigit (v % (10 * k)) = decDigit v := by
  rw [decDigit, decDigit, Nat.mod_mul_right_mod]

theorem decDigit_mod (n : Nat) : decDigit (n % 10) = decDigit n := decDigit_mod_mul n 1

theorem decDigit_mod_div (v j k : Nat) : decDigit (v % (j * (10 * k)) / j) = decDigit (v / j) := by
  rw [Nat.mod_mul_right_div_self, decDigit_mod_mul]

theorem decDigit_table : ∀ k : Fin 10, (Char.ofNat (48 + k.val)).toNat = 48 + k.val ∧ (Char.ofNat (48 + k.val)).isDigit = true := by
  decide

theorem decDigit_facts (n : Nat) : (decDigit n).toNat = 48 + n % 10 ∧ (decDigit n).isDigit = true :=
  decDigit_table ⟨n % 10, Nat.mod_lt _ (by omega)⟩

/-- the `k` low-order decimal digits of `v`, most significant first -/
def digitsN : Nat → Nat → PyStr
  | 0, _ => []
  | k+1, v => digitsN k (v / 10) ++ [decDigit v]

theorem digitsN_zero (k : Nat) : digitsN k 0 = List.replicate k '0' := by
  induction k with
  | zero => rfl
  | succ k ih => rw [digitsN, Nat.zero_div, ih, List.replicate_succ']; rfl

/-- `str(v).zfill(k)` is the `k`-digit rendering of `v`, for every `v < 10^k` -/
theorem zfill_pyStr (k v : Nat) (hk : 0 < k) (hv : v < 10 ^ k) : zfill k (pyStr v) = digitsN k v := by
  induction k generalizing v with
  | zero => omega
  | succ k ih =>
    rw [pyStr_eq, digitsN]
    split
    · rename_i h; rw [Nat.div_eq_of_lt h, digitsN_zero]; rfl
    · have hk' : 0 < k := Nat.pos_of_ne_zero fun h => by subst h; omega
      rw [← ih (v / 10) hk' (by rw [Nat.pow_succ] at hv; omega)]
      simp only [zfill, List.length_append, List.length_singleton, Nat.add_sub_add_right, List.append_assoc]

/-- the number a decimal string denotes -/
def decValue (s : PyStr) : Nat := s.foldl (fun a c => 10 * a + (c.toNat - 48)) 0

theorem decValue_digitsN (k v : Nat) : decValue (digitsN k v) = v % 10 ^ k := by
  induction k generalizing v with
  | zero => rw [Nat.pow_zero, Nat.mod_one]; rfl
  | succ k ih =>
    have := ih (v / 10)
    rw [decValue] at this ⊢
    rw [digitsN, List.foldl_append, this, List.foldl_cons, List.foldl_nil, (decDigit_facts v).1, Nat.pow_succ,
      Nat.mul_comm _ 10, Nat.mod_mul]
    omega

/-- five decimal digits of `v`, most significant first -/
def digits5 (v : Nat) : PyStr :=
  [decDigit (v / 10000), decDigit (v / 1000), decDigit (v / 100), decDigit (v / 10), decDigit v]

theorem digits5_eq (v : Nat) : digits5 v = digitsN 5 v := by
  simp [digits5, digitsN, Nat.div_div_eq_div_mul]

/-- without the zero fill, small values come out shorter than five characters (the repaired defect) -/
theorem pyStr_short : (pyStr 6531).length = 4 ∧ (zfill 5 (pyStr 6531)) = ['0', '6', '5', '3', '1'] := by decide

end Pyemv
