import PyemvModel.Tools
/-! # Helper lemmas: big/little-endian conversion and `tools.xor` -/
namespace Pyemv

theorem zeros_length (n : Nat) : (zeros n).length = n := List.length_replicate

theorem xorB_length (a b : Bytes) : (xorB a b).length = min a.length b.length := List.length_zipWith

theorem lastN_length {α} (n : Nat) (l : List α) : (lastN n l).length = min n l.length := by
  rw [lastN, List.length_drop]; omega

theorem toLE_length (k n : Nat) : (toLE k n).length = k := by
  induction k generalizing n with
  | zero => rfl
  | succ k ih => simp [toLE, ih]

theorem xor_length (a b : Bytes) : (xor a b).length = a.length := toLE_length _ _

/-! Lengths are simp lemmas (here and for `encBlock`, `decBlock`, `desE`, `desD`, `tdesE`, `tdesD`, `alg3` and the
paddings): a side condition `a.length = b.length` of a lemma about `xorB` or `xor` is then closed by
`simp [h…]` from the length hypotheses at hand.  Note that `xorB_length` and `lastN_length` produce a `min`. -/
attribute [simp] zeros_length xorB_length lastN_length toLE_length xor_length

theorem toBE_one (n : Nat) : toBE 1 n = [UInt8.ofNat n] := by
  rw [toBE, toBE, Nat.pow_zero, Nat.div_one]
  exact congrArg (· :: []) UInt8.ofNat_mod_size

theorem toBytesBE_1 (n : Nat) (h : n < 256) : toBytesBE 1 n = .ok [UInt8.ofNat n] := by
  simp [toBytesBE, h, toBE_one]

theorem pow256_eq (k : Nat) : (256 : Nat) ^ k = 2 ^ (8 * k) := by
  rw [show (256 : Nat) = 2 ^ 8 from rfl, ← Nat.pow_mul]

/-! ### `fromLE` and `toLE` are inverse -/

theorem fromLE_lt (l : Bytes) : fromLE l < 256 ^ l.length := by
  induction l with
  | nil => simp [fromLE]
  | cons b bs ih =>
    simp only [fromLE, List.length_cons, Nat.pow_succ]
    have := b.toNat_lt
    omega

theorem toLE_fromLE (l : Bytes) : toLE l.length (fromLE l) = l := by
  induction l with
  | nil => rfl
  | cons b bs ih =>
    rw [List.length_cons, fromLE, toLE, Nat.add_mul_div_left _ _ (by decide), Nat.div_eq_of_lt b.toNat_lt, Nat.zero_add, ih,
      Nat.add_mul_mod_self_left, Nat.mod_eq_of_lt b.toNat_lt, UInt8.ofNat_toNat]

theorem fromLE_toLE (k n : Nat) (h : n < 256 ^ k) : fromLE (toLE k n) = n := by
  induction k generalizing n with
  | zero => simp at h; subst h; rfl
  | succ k ih =>
    rw [toLE, fromLE, ih _ (by rw [Nat.pow_succ] at h; omega), UInt8.toNat_ofNat', Nat.mod_mod_of_dvd _ (by decide)]
    exact Nat.mod_add_div n 256

/-! ### big-endian is little-endian read backwards, so every fact above has its big-endian twin -/

theorem div_mod_pow (b j i : Nat) : (j % b ^ (i+1)) / b = (j / b) % b ^ i := by
  rw [Nat.pow_succ, Nat.mul_comm, Nat.mod_mul_right_div_self]

theorem mod_mod_pow (b j i : Nat) : (j % b ^ (i+1)) % b = j % b := by
  rw [Nat.pow_succ, Nat.mul_comm, Nat.mod_mul_right_mod]

/-- `toLE` peels the least significant digit, `toBE` the most significant one: here `toLE` is read from the other end -/
theorem toLE_succ_last (k n : Nat) : toLE (k + 1) n = toLE k (n % 256 ^ k) ++ [UInt8.ofNat (n / 256 ^ k % 256)] := by
  induction k generalizing n with
  | zero => simp [toLE]
  | succ k ih =>
    rw [toLE, ih, toLE, mod_mod_pow, div_mod_pow, Nat.div_div_eq_div_mul, ← Nat.pow_succ']
    rfl

theorem toBE_eq_reverse (k n : Nat) : toBE k n = (toLE k n).reverse := by
  induction k generalizing n with
  | zero => rfl
  | succ k ih => rw [toLE_succ_last, List.reverse_append, toBE, ih]; rfl

theorem fromBE_eq_reverse (bs : Bytes) : fromBE bs = fromLE bs.reverse := by
  rw [fromBE, List.foldl_eq_foldr_reverse]
  generalize bs.reverse = l
  induction l with
  | nil => rfl
  | cons b l ih => rw [List.foldr_cons, ih, fromLE, Nat.add_comm]

theorem fromLE_append (a b : Bytes) : fromLE (a ++ b) = fromLE a + 256 ^ a.length * fromLE b := by
  induction a with
  | nil => simp [fromLE]
  | cons x a ih =>
    rw [List.cons_append, fromLE, ih, fromLE, List.length_cons, Nat.pow_succ, Nat.mul_add, Nat.add_assoc,
      Nat.mul_comm (256 ^ a.length) 256, Nat.mul_assoc]

theorem fromBE_cons (b : UInt8) (bs : Bytes) : fromBE (b :: bs) = b.toNat * 256 ^ bs.length + fromBE bs := by
  rw [fromBE_eq_reverse, List.reverse_cons, fromLE_append, ← fromBE_eq_reverse, List.length_reverse, fromLE, fromLE,
    Nat.mul_zero, Nat.add_zero, Nat.add_comm, Nat.mul_comm]

@[simp] theorem toBE_length (k n : Nat) : (toBE k n).length = k := by
  rw [toBE_eq_reverse, List.length_reverse, toLE_length]

theorem fromBE_lt (bs : Bytes) : fromBE bs < 256 ^ bs.length := by
  rw [fromBE_eq_reverse, ← List.length_reverse]; exact fromLE_lt _

theorem fromBE_lt_of_length {bs : Bytes} {n : Nat} (h : bs.length = n) : fromBE bs < 256 ^ n := h ▸ fromBE_lt bs

theorem fromBE_toBE (k n : Nat) (h : n < 256 ^ k) : fromBE (toBE k n) = n := by
  rw [fromBE_eq_reverse, toBE_eq_reverse, List.reverse_reverse, fromLE_toLE k n h]

theorem toBE_fromBE (bs : Bytes) : toBE bs.length (fromBE bs) = bs := by
  rw [fromBE_eq_reverse, toBE_eq_reverse, ← List.length_reverse, toLE_fromLE, List.reverse_reverse]

/-! ### exclusive-or acts digit by digit, whichever end the digits are counted from -/

theorem toLE_xor (k x y : Nat) : toLE k (x ^^^ y) = xorB (toLE k x) (toLE k y) := by
  induction k generalizing x y with
  | zero => rfl
  | succ k ih =>
    rw [toLE, toLE, toLE, show (x ^^^ y) % 256 = x % 256 ^^^ y % 256 from Nat.xor_mod_two_pow (n := 8), UInt8.ofNat_xor,
      show (x ^^^ y) / 256 = x / 256 ^^^ y / 256 from Nat.xor_div_two_pow (n := 8), ih]
    rfl

theorem toBE_xor (k x y : Nat) : toBE k (x ^^^ y) = xorB (toBE k x) (toBE k y) := by
  rw [toBE_eq_reverse, toBE_eq_reverse, toBE_eq_reverse, toLE_xor, xorB, xorB, List.reverse_zipWith (by simp)]

/-- **`tools.xor`** of two equal-length strings (computed through big integers) is the byte-wise exclusive-or -/
theorem xor_eq_zipWith : ∀ (a b : Bytes), a.length = b.length → xor a b = List.zipWith (· ^^^ ·) a b := by
  intro a b h
  rw [xor, toLE_xor, List.take_of_length_le (Nat.le_of_eq h.symm), toLE_fromLE, h, toLE_fromLE]
  rfl

theorem xor_eq_xorB (a b : Bytes) (h : a.length = b.length) : xor a b = xorB a b := xor_eq_zipWith a b h

/-- the same source read with `sys.byteorder == "big"` gives the byte-wise exclusive-or too -/
theorem xorBigEndian_eq_zipWith : ∀ (a b : Bytes), a.length = b.length → xorBigEndian a b = List.zipWith (· ^^^ ·) a b := by
  intro a b h
  rw [xorBigEndian, toBE_xor, List.take_of_length_le (Nat.le_of_eq h.symm), toBE_fromBE, h, toBE_fromBE]
  rfl

/-- hence the result does not depend on the host's byte order when the operands have equal lengths -/
theorem xor_host_independent (a b : Bytes) (h : a.length = b.length) : xorBigEndian a b = xor a b := by
  rw [xorBigEndian_eq_zipWith a b h, xor_eq_zipWith a b h]

end Pyemv
