import PyemvGen.Mod.mac_mac3
import PyemvProps.C01
/-! Generated by lean/mk_source.py (committed). C01 restated about the definitions translated from the
repository's source on this run (`Pyemv.Gen.*`), by the refinement theorem(s) mac_mac3. -/
namespace Pyemv.C01.Source
open Spec

theorem mac3_eq_spec (k1 k2 data : Bytes) (pm : Int) (len : Option Nat)
    (h1 : k1.length = 8) (h2 : k2.length = 8) (hp : pm = 1 ∨ pm = 2) :
    Gen.mac.mac_iso9797_3 k1 k2 data pm len =
      .ok ((alg3 k1 k2 (if pm = 1 then Spec.pad1 8 data else Spec.pad2 8 data)).take (len.getD 8)) := by
  simp only [ModRefines.mac_mac3]
  exact _root_.Pyemv.C01.mac3_eq_spec k1 k2 data pm len h1 h2 hp

end Pyemv.C01.Source
