import PyemvProps.C01
import PyemvProps.C02
import PyemvProps.C04
import PyemvProps.C05
import PyemvProps.C06
import PyemvProps.C07
import PyemvProps.C11
import PyemvProps.C12
/-!
# C15 — wrong-sized keys and fields are always refused, never silently used

For every public function: any wrongly sized key or field gives `ValueError` (for *every* length, the
length being a universally quantified natural number), an unknown selector gives `TypeError`, and every
correctly sized input is accepted (the `…_eq_spec` theorems of the other properties exhibit the value).
-/
namespace Pyemv.C15

/-! After `throw_bind` and `guard_guard` a body reads `if g₁ ∨ g₂ ∨ … then .error .valueError else …`, and the
hypothesis of a `…_rejects` theorem is that disjunction. -/

theorem generate_ac_rejects (sk d : Bytes) (pt : Option PaddingType) (l : Option Nat) (h : sk.length ≠ 16) :
    generateAc sk d pt l = .error .valueError := by
  simp only [generateAc, throw_bind, if_pos h]

theorem generate_ac_other_padding_typeerror (sk d : Bytes) (l : Option Nat) (h : sk.length = 16) :
    generateAc sk d (some .other) l = .error .typeError := by
  simp only [generateAc, throw_eq, h, ite_ne_self, Option.getD_some]

theorem generate_ac_accepts (sk d : Bytes) (pt : Option PaddingType) (l : Option Nat) (h : sk.length = 16)
    (hpt : pt ≠ some .other) : ∃ v, generateAc sk d pt l = .ok v := ⟨_, C01.generate_ac_eq_spec sk d pt l h hpt⟩

theorem mac3_bad_method_valueerror (k1 k2 d : Bytes) (pm : Int) (l : Option Nat) (h : pm ≠ 1 ∧ pm ≠ 2) :
    mac3 k1 k2 d pm l = .error .valueError := by
  simp only [mac3, padSelect, h.1, h.2, if_false, throw_bind]

theorem arpc1_rejects (sk arqc rc : Bytes) (h : sk.length ≠ 16 ∨ arqc.length ≠ 8 ∨ rc.length ≠ 2) :
    generateArpc1 sk arqc rc = .error .valueError := by
  simp only [generateArpc1, throw_bind, guard_guard, if_pos h]

theorem arpc1_accepts (sk arqc rc : Bytes) (h1 : sk.length = 16) (h2 : arqc.length = 8) (h3 : rc.length = 2) :
    ∃ v, generateArpc1 sk arqc rc = .ok v := ⟨_, C02.arpc1_eq_spec sk arqc rc h1 h2 h3⟩

theorem arpc2_rejects (sk arqc csu : Bytes) (pad : Option Bytes)
    (h : sk.length ≠ 16 ∨ arqc.length ≠ 8 ∨ csu.length ≠ 4 ∨ (pad.getD []).length > 8) :
    generateArpc2 sk arqc csu pad = .error .valueError := by
  simp only [generateArpc2, throw_bind, guard_guard, if_pos h]

theorem arpc2_accepts (sk arqc csu : Bytes) (pad : Option Bytes) (h1 : sk.length = 16) (h2 : arqc.length = 8)
    (h3 : csu.length = 4) (h4 : (pad.getD []).length ≤ 8) : ∃ v, generateArpc2 sk arqc csu pad = .ok v :=
  ⟨_, C02.arpc2_eq_spec sk arqc csu pad h1 h2 h3 h4⟩

theorem common_sk_rejects (mk r : Bytes) (h : mk.length ≠ 16 ∨ r.length ≠ 8) :
    deriveCommonSk mk r = .error .valueError := by
  simp only [deriveCommonSk, throw_bind, guard_guard, if_pos h]

theorem common_sk_accepts (mk r : Bytes) (h1 : mk.length = 16) (h2 : r.length = 8) : ∃ v, deriveCommonSk mk r = .ok v :=
  ⟨_, C04.common_sk_eq_spec mk r h1 h2⟩

theorem visa_sk_rejects (mk atc : Bytes) (h : mk.length ≠ 16 ∨ atc.length ≠ 2) :
    deriveVisaSmSk mk atc = .error .valueError := by
  simp only [deriveVisaSmSk, throw_bind, guard_guard, if_pos h]

theorem visa_sk_accepts (mk atc : Bytes) (h1 : mk.length = 16) (h2 : atc.length = 2) : ∃ v, deriveVisaSmSk mk atc = .ok v :=
  ⟨_, C04.visa_sk_eq_spec mk atc h1 h2⟩

theorem tree_sk_rejects (mk atc iv : Bytes) (hgt b : Nat) (h : mk.length ≠ 16 ∨ atc.length ≠ 2 ∨ iv.length ≠ 16) :
    deriveEmv2000TreeSk mk atc hgt b iv = .error .valueError := by
  -- the gate is a fourth guard with the same error
  simp only [deriveEmv2000TreeSk, throw_bind, guard_guard]
  exact if_pos (h.imp_right (·.imp_right Or.inl))

theorem tree_sk_accepts (mk atc iv : Bytes) (b H : Nat) (h1 : mk.length = 16) (h2 : atc.length = 2) (h3 : iv.length = 16)
    (hb : 0 < b) (hg : b ^ (H + 1) > 65535) : ∃ v, deriveEmv2000TreeSk mk atc (H + 1) b iv = .ok v :=
  ⟨_, C05.tree_sk_eq_spec mk atc iv b H h1 h2 h3 hb hg⟩

theorem command_mac_rejects (sk c : Bytes) (l : Option Nat) (h : sk.length ≠ 16) :
    generateCommandMac sk c l = .error .valueError := by
  simp only [generateCommandMac, throw_bind, if_pos h]

theorem command_mac_accepts (sk c : Bytes) (l : Option Nat) (h : sk.length = 16) : ∃ v, generateCommandMac sk c l = .ok v :=
  ⟨_, C06.command_mac_eq_spec sk c l h⟩

theorem encrypt_rejects (sk d : Bytes) (t : EncryptionType) (h : sk.length ≠ 16) :
    encryptCommandData sk d t = .error .valueError := by
  simp only [encryptCommandData, throw_bind, if_pos h]

theorem encrypt_other_scheme_typeerror (sk d : Bytes) (h : sk.length = 16) :
    encryptCommandData sk d .other = .error .typeError := C07.unknown_scheme_typeerror sk d h

theorem encrypt_accepts (sk d : Bytes) (h : sk.length = 16) (hd : d.length ≤ 255) :
    (∃ v, encryptCommandData sk d .visa = .ok v) ∧ (∃ v, encryptCommandData sk d .mastercard = .ok v) ∧
    (∃ v, encryptCommandData sk d .emv = .ok v) :=
  ⟨⟨_, C07.enc_visa_eq sk d h hd⟩, ⟨_, C07.enc_mc_eq sk d h⟩, ⟨_, C07.enc_emv_eq sk d h⟩⟩

theorem cvc3_rejects (k t atc un : Bytes) (h : k.length ≠ 16 ∨ atc.length ≠ 2 ∨ un.length ≠ 4) :
    generateCvc3 k t atc un = .error .valueError := by
  simp only [generateCvc3, throw_bind, guard_guard, if_pos h]

theorem cvc3_accepts (k t atc un : Bytes) (h1 : k.length = 16) (h2 : atc.length = 2) (h3 : un.length = 4) :
    ∃ v, generateCvc3 k t atc un = .ok v := ⟨_, C11.cvc3_eq_spec k t atc un h1 h2 h3⟩

theorem pin_rejects (p : StrOrBytes) (mk : Bytes) (cur : Option StrOrBytes) (h : p.len < 4 ∨ p.len > 12) :
    formatIso2PinBlock p = .error .valueError ∧ formatVisPinBlock mk p cur = .error .valueError :=
  C12.pin_length_guard p mk cur h

theorem vis_pin_key_rejects (p : StrOrBytes) (mk : Bytes) (cur : Option StrOrBytes) (h : mk.length ≠ 16) :
    formatVisPinBlock mk p cur = .error .valueError := by
  simp only [formatVisPinBlock, throw_bind, guard_guard, if_pos (Or.inr h)]

/-- a supplied current PIN of any length outside 4..12 (the empty one included) is never accepted -/
theorem vis_current_pin_rejects (p c : StrOrBytes) (mk : Bytes) (h : c.len < 4 ∨ c.len > 12) :
    ∀ v, formatVisPinBlock mk p (some c) ≠ .ok v := by
  intro v hv
  simp only [formatVisPinBlock, throw_bind, guard_eq_ok, bind_eq_ok] at hv
  obtain ⟨-, -, pt, -, ct, hc, cur, hcur, lb, -, body, -, hv⟩ := hv
  cases hcur
  rw [← text_len c ct hc] at h
  simp only [guard_eq_ok] at hv
  exact hv.1 h

theorem pin_accepts (p : PyStr) (mk : Bytes) (hp : C12.ValidPin p) (hmk : mk.length = 16) :
    (∃ v, formatIso2PinBlock (.str p) = .ok v) ∧ (∃ v, formatVisPinBlock mk (.str p) none = .ok v) := by
  obtain ⟨b, h, _⟩ := C12.iso2_recovers p hp
  obtain ⟨blk, _, _, hv, _⟩ := C12.vis_recovers mk p none hmk hp (by intro c h; cases h)
  exact ⟨⟨b, h⟩, ⟨blk, hv⟩⟩

example : (List.replicate 17 (0 : UInt8)).length ≠ 16 := by decide

end Pyemv.C15
