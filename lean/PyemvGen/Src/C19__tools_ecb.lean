import PyemvGen.Mod.tools_ecb
import PyemvProps.C19
/-! Generated by lean/mk_source.py (committed). C19 restated about the definitions translated from the
repository's source on this run (`Pyemv.Gen.*`), by the refinement theorem(s) tools_ecb. -/
namespace Pyemv.C19.Source
open Spec

theorem ecb_roundtrip (key d : Bytes) (ks : Ks) (n : Nat) (hk : tdesKeys key = .ok ks) (hd : d.length = 8 * n) :
    ∃ c, Gen.tools.encrypt_tdes_ecb key d = .ok c ∧ c.length = 8 * n ∧ ecbUpdate (decBlock ks) c = d := by
  simp only [ModRefines.tools_ecb]
  exact _root_.Pyemv.C19.ecb_roundtrip key d ks n hk hd

theorem ecb_two_blocks (K a b : Bytes) (hK : K.length = 16) (ha : a.length = 8) (hb : b.length = 8) :
    Gen.tools.encrypt_tdes_ecb K (a ++ b) = .ok (tdesE K a ++ tdesE K b) := by
  simp only [ModRefines.tools_ecb]
  exact _root_.Pyemv.C19.ecb_two_blocks K a b hK ha hb

end Pyemv.C19.Source
