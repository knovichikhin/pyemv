import PyemvGen.Mod.mac_mac3
import PyemvProps.C15
/-! Generated by lean/mk_source.py (committed). C15 restated about the definitions translated from the
repository's source on this run (`Pyemv.Gen.*`), by the refinement theorem(s) mac_mac3. -/
namespace Pyemv.C15.Source
open Spec

theorem mac3_bad_method_valueerror (k1 k2 d : Bytes) (pm : Int) (l : Option Nat) (h : pm ≠ 1 ∧ pm ≠ 2) :
    Gen.mac.mac_iso9797_3 k1 k2 d pm l = .error .valueError := by
  simp only [ModRefines.mac_mac3]
  exact _root_.Pyemv.C15.mac3_bad_method_valueerror k1 k2 d pm l h

end Pyemv.C15.Source
