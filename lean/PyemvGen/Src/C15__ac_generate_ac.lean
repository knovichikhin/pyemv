import PyemvGen.Mod.ac_generate_ac
import PyemvProps.C15
/-! Generated by lean/mk_source.py (committed). C15 restated about the definitions translated from the
repository's source on this run (`Pyemv.Gen.*`), by the refinement theorem(s) ac_generate_ac. -/
namespace Pyemv.C15.Source
open Spec

theorem generate_ac_rejects (sk d : Bytes) (pt : Option PaddingType) (l : Option Nat) (h : sk.length ≠ 16) :
    Gen.ac.generate_ac sk d pt l = .error .valueError := by
  simp only [ModRefines.ac_generate_ac]
  exact _root_.Pyemv.C15.generate_ac_rejects sk d pt l h

theorem generate_ac_other_padding_typeerror (sk d : Bytes) (l : Option Nat) (h : sk.length = 16) :
    Gen.ac.generate_ac sk d (some .other) l = .error .typeError := by
  simp only [ModRefines.ac_generate_ac]
  exact _root_.Pyemv.C15.generate_ac_other_padding_typeerror sk d l h

theorem generate_ac_accepts (sk d : Bytes) (pt : Option PaddingType) (l : Option Nat) (h : sk.length = 16)
    (hpt : pt ≠ some .other) :
    ∃ v, Gen.ac.generate_ac sk d pt l = .ok v := by
  simp only [ModRefines.ac_generate_ac]
  exact _root_.Pyemv.C15.generate_ac_accepts sk d pt l h hpt

end Pyemv.C15.Source
