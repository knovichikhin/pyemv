import PyemvGen.Mod.Common
namespace Pyemv.ModRefines
open Pyemv.Gen

theorem tools_xor (a b : Bytes) : Gen.tools.xor a b = .ok (Pyemv.xor a b) := by
  unfold Gen.tools.xor toBytesLE Pyemv.xor
  simp only [xor_fits a b, if_true, throw_eq, pure_eq_ok, ok_bind, error_bind, bind_ok, except_match_eta]

theorem xorBE_fits (a b : Bytes) : fromBE a ^^^ fromBE (b.take a.length) < 256 ^ a.length :=
  xor_lt_pow256 (fromBE_lt a) (lt_pow256_take fromBE_lt a b)

/-- the same source as a host with `sys.byteorder == "big"` evaluates it -/
theorem tools_xor_bigendian (a b : Bytes) : Gen.tools.xor_bigendian a b = .ok (Pyemv.xorBigEndian a b) := by
  unfold Gen.tools.xor_bigendian toBytesBE Pyemv.xorBigEndian
  simp only [xorBE_fits a b, if_true, throw_eq, pure_eq_ok, ok_bind, error_bind, bind_ok, except_match_eta]

end Pyemv.ModRefines
