import PyemvGen.Mod.tools_adjust
import PyemvProps.C13
/-! Generated by lean/mk_source.py (committed). C13 restated about the definitions translated from the
repository's source on this run (`Pyemv.Gen.*`), by the refinement theorem(s) tools_adjust. -/
namespace Pyemv.C13.Source
open Spec

theorem adjust_gives_odd_parity (k : Bytes) :
    ∃ r, Gen.tools.adjust_key_parity k = .ok r ∧ r.length = k.length ∧ OddBytes r :=
  ⟨_, ModRefines.tools_adjust k, _root_.Pyemv.C13.adjust_gives_odd_parity k⟩

theorem adjust_only_lsb (k : Bytes) :
    ∃ r, Gen.tools.adjust_key_parity k = .ok r ∧ ∃ hl : r.length = k.length,
      ∀ i (hi : i < k.length), r[i]'(hl ▸ hi) = k[i] ∨ r[i]'(hl ▸ hi) = k[i] ^^^ 1 :=
  ⟨_, ModRefines.tools_adjust k, adjust_length k, fun i hi => _root_.Pyemv.C13.adjust_only_lsb k i hi⟩

theorem adjust_idempotent (k : Bytes) :
    ∃ r, Gen.tools.adjust_key_parity k = .ok r ∧ Gen.tools.adjust_key_parity r = .ok r := by
  refine ⟨_, ModRefines.tools_adjust k, ?_⟩
  rw [ModRefines.tools_adjust, _root_.Pyemv.C13.adjust_idempotent]

end Pyemv.C13.Source
