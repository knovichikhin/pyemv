import PyemvProofs.DesProofs
/-!
A twin of the DES core in the form the kernel evaluates fastest, and the proof that it is the model.  It runs over
the model's own tables; what differs is the form only.  Arithmetic is written as applications of `Nat.add`,
`Nat.shiftRight`, … themselves: on those the kernel computes with its big-number library at once, whereas `+`, `>>>`,
`testBit` are unfolded through their instances at every use.  The S-boxes are one numeral each instead of an `Array`
of `Nat`.  A known answer about the model is rewritten with the simp set `kat` of `PyemvProofs/Kat` (it ends in
`crypt_eq_fast`, `subkeys_eq_fast`) and evaluated afterwards.
-/
namespace Des.Fast

/-- `permute`, the table as the argument of its recursor: the kernel then takes a table entry in one reduction
step, where a compiled structural recursion (`brecOn`) takes several, and most of the work of a DES block is
here.  The price is `noncomputable`: this is for the kernel, `Des` is the one to run. -/
noncomputable def perm (w x : Nat) (tbl : List Nat) : Nat → Nat :=
  tbl.rec (fun acc => acc) fun p _ rest acc =>
    rest (Nat.add (Nat.mul 2 acc) (Nat.mod (Nat.shiftRight x (Nat.sub w p)) 2))

theorem shiftRight_mod_two (x s : Nat) : (x >>> s) % 2 = if x.testBit s then 1 else 0 := by
  rw [Nat.shiftRight_eq_div_pow, ← Nat.toNat_testBit]; cases x.testBit s <;> rfl

theorem perm_eq_foldl (w x : Nat) (tbl : List Nat) (acc : Nat) :
    perm w x tbl acc = tbl.foldl (fun acc p => 2 * acc + (if x.testBit (w - p) then 1 else 0)) acc := by
  induction tbl generalizing acc with
  | nil => rfl
  | cons p ps ih => exact (ih _).trans (by rw [List.foldl_cons, ← shiftRight_mod_two]; rfl)

theorem perm_eq (w x : Nat) (tbl : List Nat) : perm w x tbl 0 = permute tbl w x := perm_eq_foldl ..

/-- Hex digit `six` of the `i`-th numeral, counted from the least significant, is what S-box `i` answers to the
six bits `six` (`sbox_eq`); the row and column arithmetic of `Des.sboxes` is in the order of the digits. -/
def SB : List Nat := [
  0xd0650aa3e739bc5f7b12964d288ec1f487305995bcc66aa318db2fe2417df40e,
  0x9fe25309c67c68b5214df43a1ba78ed05ab5906cad1207c9e4832bf67e48d13f,
  0xc72e5ab53ce2f14b70839f6809d4a61d18f2b4cbe75c8d21a56f43369e0970da,
  0xe42872c5be53419f8dd71bac6009f63a9fe4ac1bc52872413a09f66053be8dd7,
  0x3e5043a6950cf96fd827ed1a7bc182b4698e903daff3055816db7a47c124bce2,
  0xd68b0d617a14e0b7a3fc5892c52f3e498b35b70ee4d31d605896c2792f4af1ac,
  0xc23925e0f8065f9a7ea7431c8ddbb4616186fa25c7593ce3ad18904f7eb20bd4,
  0xb865533f0d9ac6f0d28eac4971e41b27279ce005be6359ca417b3fa684d8f21d]

def sbox (t six : Nat) : Nat := Nat.mod (Nat.shiftRight t (Nat.mul 4 six)) 16

theorem sbox_eq : ∀ i < 8, ∀ six < 64,
    (SBOX[i]!)[16 * (2 * (six / 32) + six % 2) + six / 2 % 16]! = sbox SB[i]! six := by decide +kernel

/-- the S-boxes left to apply, the shift that brings the next six bits down, the output so far -/
def sboxes (x : Nat) : List Nat → Nat → Nat → Nat
  | [], _, acc => acc
  | t :: ts, sh, acc =>
    sboxes x ts (Nat.sub sh 6) (Nat.add (Nat.mul 16 acc) (sbox t (Nat.mod (Nat.shiftRight x sh) 64)))

theorem sboxes_eq (x : Nat) : sboxes x SB 42 0 = Des.sboxes x := by
  have h (i sh : Nat) (hi : i < 8) := sbox_eq i hi ((x >>> sh) % 64) (Nat.mod_lt _ (by decide))
  simp only [Des.sboxes, List.range, List.range.loop, List.foldl, h, Nat.reduceLT]
  rfl

noncomputable section

def f (r k : Nat) : Nat := perm 32 (sboxes (Nat.xor (perm 32 r E 0) k) SB 42 0) P 0

def rounds : List Nat → Nat → Nat → Nat × Nat
  | [], l, r => (l, r)
  | k :: ks, l, r => rounds ks r (Nat.xor l (f r k))

def crypt (ks : List Nat) (x : Nat) : Nat :=
  let y := perm 64 x IP 0
  let lr := rounds ks (Nat.shiftRight y 32) (Nat.mod y (Nat.pow 2 32))
  perm 64 (Nat.lor (Nat.shiftLeft lr.2 32) lr.1) FP 0

def rotl28 (x n : Nat) : Nat :=
  Nat.mod (Nat.lor (Nat.shiftLeft x n) (Nat.shiftRight x (Nat.sub 28 n))) (Nat.pow 2 28)

/-- the round keys still to come, from the two halves as the previous round left them -/
def keys (c d : Nat) : List Nat → List Nat
  | [] => []
  | s :: ss =>
    let c := rotl28 c s
    let d := rotl28 d s
    perm 56 (Nat.lor (Nat.shiftLeft c 28) d) PC2 0 :: keys c d ss

def subkeys (key : Nat) : List Nat :=
  let cd := perm 64 key PC1 0
  keys (Nat.shiftRight cd 28) (Nat.mod cd (Nat.pow 2 28)) SHIFTS

end

theorem f_eq (r k : Nat) : f r k = Des.f r k := by
  simp only [f, perm_eq, sboxes_eq]; rfl

theorem rounds_eq (ks : List Nat) (l r : Nat) : rounds ks l r = Des.rounds ks l r := by
  induction ks generalizing l r with
  | nil => rfl
  | cons k ks ih => rw [rounds, ih, f_eq]; rfl

/-- the model appends each round key to those it has; `keys` puts it in front of those to come -/
theorem keys_eq (c d : Nat) (ss acc : List Nat) :
    (ss.foldl (fun (st : Nat × Nat × List Nat) s =>
      let c := Des.rotl28 st.1 s
      let d := Des.rotl28 st.2.1 s
      (c, d, st.2.2 ++ [permute PC2 56 ((c <<< 28) ||| d)])) (c, d, acc)).2.2 = acc ++ keys c d ss := by
  induction ss generalizing c d acc with
  | nil => simp [keys]
  | cons s ss ih => rw [List.foldl_cons, ih, keys, perm_eq, List.append_assoc]; rfl

end Des.Fast

namespace Des

theorem crypt_eq_fast : crypt = Fast.crypt := by
  funext ks x; simp only [Fast.crypt, Fast.perm_eq, Fast.rounds_eq]; rfl

theorem subkeys_eq_fast : subkeys = Fast.subkeys := by
  funext key; simp only [Fast.subkeys, subkeys, Fast.perm_eq, Fast.keys_eq]; rfl

end Des
