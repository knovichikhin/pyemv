/-!
# SHA-1 (FIPS 180-4), executable

Stands for `hashlib.sha1` in option B of the master-key derivation.  Tied to `hashlib`
differentially (`py.sha1`); the only facts proved about it and used are that the digest has 20 bytes and that
`processBlock` equals the form in which the kernel evaluates it for the known answers (`PyemvProofs/Sha1Fast`).
-/
namespace Sha1

@[inline] def rotl (x : UInt32) (n : UInt32) : UInt32 := (x <<< n) ||| (x >>> (32 - n))

def padMsg (msg : ByteArray) : ByteArray := Id.run do
  let ml : UInt64 := msg.size.toUInt64 * 8
  let mut m := msg.push 0x80
  for _ in [0:(119 - msg.size % 64) % 64] do
    m := m.push 0
  for i in [0:8] do
    m := m.push ((ml >>> (8 * (7 - i).toUInt64)).toUInt8)
  return m

def word (m : ByteArray) (i : Nat) : UInt32 :=
  (m[i]!.toUInt32 <<< 24) ||| (m[i+1]!.toUInt32 <<< 16) ||| (m[i+2]!.toUInt32 <<< 8) ||| m[i+3]!.toUInt32

abbrev State := UInt32 × UInt32 × UInt32 × UInt32 × UInt32

def processBlock (h : State) (m : ByteArray) (off : Nat) : State := Id.run do
  let mut w : Array UInt32 := Array.mkEmpty 80
  for t in [0:16] do
    w := w.push (word m (off + 4*t))
  for t in [16:80] do
    w := w.push (rotl (w[t-3]! ^^^ w[t-8]! ^^^ w[t-14]! ^^^ w[t-16]!) 1)
  let (h0, h1, h2, h3, h4) := h
  let mut a := h0; let mut b := h1; let mut c := h2; let mut d := h3; let mut e := h4
  for t in [0:80] do
    let (f, k) : UInt32 × UInt32 :=
      if t < 20 then ((b &&& c) ||| ((~~~ b) &&& d), 0x5A827999)
      else if t < 40 then (b ^^^ c ^^^ d, 0x6ED9EBA1)
      else if t < 60 then ((b &&& c) ||| (b &&& d) ||| (c &&& d), 0x8F1BBCDC)
      else (b ^^^ c ^^^ d, 0xCA62C1D6)
    let tmp := rotl a 5 + f + e + k + w[t]!
    e := d; d := c; c := rotl b 30; b := a; a := tmp
  return (h0 + a, h1 + b, h2 + c, h3 + d, h4 + e)

def compress (msg : ByteArray) : State := Id.run do
  let m := padMsg msg
  let mut h : State := (0x67452301, 0xEFCDAB89, 0x98BADCFE, 0x10325476, 0xC3D2E1F0)
  for i in [0:m.size / 64] do
    h := processBlock h m (64 * i)
  return h

def be32 (x : UInt32) : List UInt8 := [(x >>> 24).toUInt8, (x >>> 16).toUInt8, (x >>> 8).toUInt8, x.toUInt8]

/-- the 20-byte digest -/
def sha1 (msg : List UInt8) : List UInt8 :=
  let h := compress (ByteArray.mk msg.toArray)
  be32 h.1 ++ be32 h.2.1 ++ be32 h.2.2.1 ++ be32 h.2.2.2.1 ++ be32 h.2.2.2.2

theorem sha1_length (msg : List UInt8) : (sha1 msg).length = 20 := by
  simp [sha1, be32]

end Sha1
