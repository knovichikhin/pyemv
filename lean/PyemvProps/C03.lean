import PyemvProofs.Hex
import PyemvProofs.Parity
/-!
# C03 — ICC master keys are derived per EMV Book 2 Annex A1.4 options A and B

BCD packing is stated through its inverse rendering: `Y` is *the* 8-byte string whose hex digits are the
16 decimal digits in question (`hexUpper Y = digits`).
-/
namespace Pyemv.C03
open Spec

/-- a 2-digit PAN sequence number, or absent (meaning "00") -/
def ValidPsn : Option PyStr → Prop
  | none => True
  | some s => s.length = 2 ∧ IsDigits s

def psnText (psn : Option PyStr) : PyStr := psn.getD ['0', '0']

theorem psnText_digits (psn : Option PyStr) (h : ValidPsn psn) : IsDigits (psnText psn) ∧ (psnText psn).length = 2 := by
  cases psn with
  | none => exact ⟨List.replicate_subset (n := 2).mpr (.inr zero_digit), rfl⟩
  | some s => exact ⟨h.2, h.1⟩

theorem psnTextR_str (psn : Option PyStr) : psnTextR (psn.map .str) = .ok (psnText psn) := by
  cases psn <;> rfl

/-- bytewise complement -/
def complement (y : Bytes) : Bytes := y.map (· ^^^ 0xFF)

theorem xor_FF (y : Bytes) : xor y (List.replicate y.length 0xFF) = complement y := by
  rw [xor_eq_xorB _ _ (by simp)]
  exact xorB_replicate y 0xFF

/-- the final step shared by both options: TDES(Y) ‖ TDES(NOT Y) with odd parity forced -/
def keyFromY (issMk y : Bytes) : Bytes := adjustKeyParity (tdesE issMk y ++ tdesE issMk (complement y))

theorem finish (issMk y : Bytes) (hk : issMk.length = 16) (hy : y.length = 8) :
    keyFromData issMk y = .ok (keyFromY issMk y) := by
  have hc : (complement y).length = 8 := by simp [complement, hy]
  rw [keyFromData, xor_FF, ecb_two_blocks issMk y _ hk hy hc]
  rfl

/-- both options end alike: 16 decimal digits are packed into `Y`, and `Y` makes the key -/
theorem key_of_digits (issMk : Bytes) (d : PyStr) (hk : issMk.length = 16) (hl : d.length = 16) (hd : IsDigits d) :
    ∃ y, y.length = 8 ∧ hexUpper y = d ∧ (a2bHex d >>= keyFromData issMk) = .ok (keyFromY issMk y) := by
  obtain ⟨y, he, hl, hx⟩ := a2bHex_upperHex 8 d hl hd.upperHex
  exact ⟨y, hl, hx, by rw [he, ok_bind, finish issMk y hk hl]⟩

/-- **Option A**: `Y` = the 16 rightmost digits of PAN ‖ PSN, zero-filled on the left, packed as BCD;
key = TDES(Y) ‖ TDES(NOT Y), odd parity forced -/
theorem mk_a_eq_spec (issMk : Bytes) (pan : PyStr) (psn : Option PyStr) (hk : issMk.length = 16)
    (hp : IsDigits pan) (hs : ValidPsn psn) :
    ∃ y, y.length = 8 ∧ hexUpper y = zfill 16 (lastN 16 (pan ++ psnText psn)) ∧
      deriveIccMkA issMk (.str pan) (psn.map .str) = .ok (keyFromY issMk y) := by
  obtain ⟨y, hl, hx, h⟩ := key_of_digits issMk _ hk (zfill_lastN_length 16 (pan ++ psnText psn))
    (zfill_subset zero_digit _ ((lastN_subset _ _).trans (List.append_subset.mpr ⟨hp, (psnText_digits psn hs).1⟩)))
  refine ⟨y, hl, hx, ?_⟩
  simp only [deriveIccMkA, psnTextR_str, StrOrBytes.text, ok_bind]
  exact h

/-- Option B equals option A for PANs of up to 16 digits -/
theorem mk_b_eq_a_of_le_16 (issMk : Bytes) (pan : StrOrBytes) (psn : Option StrOrBytes) (h : pan.len ≤ 16) :
    deriveIccMkB issMk pan psn = deriveIccMkA issMk pan psn := if_pos h

def lowerHexChars : List Char := "0123456789abcdef".toList

theorem lowerHexChars_eq : lowerHexChars = (List.range 16).map hexDigitLower := by decide

/-- a lower-case hex digit is a decimal or one of a..f, never both -/
theorem lowerHex_class : ∀ c ∈ lowerHexChars, isLet c = !isDec c ∧ (isDec c = true → c ∈ digitChars) ∧
    (isLet c = true → Char.ofNat (c.toNat - 97 + 48) ∈ digitChars) := by decide

theorem hexLower_chars (bs : Bytes) : ∀ c ∈ hexLower bs, c ∈ lowerHexChars := by
  intro c hc
  simp only [hexLower, List.mem_flatMap] at hc
  obtain ⟨b, _, hb⟩ := hc
  simp only [List.mem_cons, List.mem_nil_iff, or_false] at hb
  rw [lowerHexChars_eq]
  rcases hb with rfl | rfl
  · exact List.mem_map_of_mem (List.mem_range.mpr (Nat.div_lt_of_lt_mul b.toNat_lt))
  · exact List.mem_map_of_mem (List.mem_range.mpr (Nat.mod_lt _ (by decide)))

theorem sha1Hex_length (m : Bytes) : (sha1Hex m).length = 40 := by
  rw [sha1Hex, hexLower_length, Sha1.sha1_length]

theorem filter_partition (s : PyStr) (h : ∀ c ∈ s, c ∈ lowerHexChars) :
    (s.filter isDec).length + (s.filter isLet).length = s.length := by
  have hl : s.filter isLet = s.filter (fun c => decide ¬isDec c = true) :=
    List.filter_congr fun c hc => by rw [(lowerHex_class c (h c hc)).1]; cases isDec c <;> rfl
  rw [hl, ← List.countP_eq_length_filter, ← List.countP_eq_length_filter]
  exact (List.length_eq_countP_add_countP isDec).symm

/-- the 16 digits of option B: the decimal digits of the digest in order, topped up when fewer than 16
exist with the letters in order mapped a..f → 0..5 -/
def decimalise16 (digest : PyStr) : PyStr := ((digest.filter isDec) ++ decimalise (digest.filter isLet)).take 16

theorem decimalise_digits (s : PyStr) (h : ∀ c ∈ s, c ∈ lowerHexChars) : IsDigits (decimalise (s.filter isLet)) := by
  intro c hc
  obtain ⟨x, hx, rfl⟩ := List.mem_map.mp hc
  obtain ⟨hm, hl⟩ := List.mem_filter.mp hx
  exact (lowerHex_class x (h x hm)).2.2 hl

theorem filter_dec_digits (s : PyStr) (h : ∀ c ∈ s, c ∈ lowerHexChars) : IsDigits (s.filter isDec) := by
  intro c hc
  obtain ⟨hm, hd⟩ := List.mem_filter.mp hc
  exact (lowerHex_class c (h c hm)).2.1 hd

theorem decimalise16_facts (digest : PyStr) (h : ∀ c ∈ digest, c ∈ lowerHexChars) (hl : 16 ≤ digest.length) :
    (decimalise16 digest).length = 16 ∧ IsDigits (decimalise16 digest) := by
  have hp := filter_partition digest h
  constructor
  · simp only [decimalise16, List.length_take, List.length_append, decimalise, List.length_map]; omega
  · exact (List.take_subset _ _).trans (List.append_subset.mpr ⟨filter_dec_digits digest h, decimalise_digits digest h⟩)

theorem decimalise16_sha1Hex (m : Bytes) : (decimalise16 (sha1Hex m)).length = 16 ∧ IsDigits (decimalise16 (sha1Hex m)) :=
  decimalise16_facts _ (hexLower_chars _) (by rw [sha1Hex_length]; decide)

/-- the code's two-step selection is the one-line spec: `take 16` of an append is the two `take`s the code makes -/
theorem code_selection_eq (digest : PyStr) : selectDigits digest = decimalise16 digest := by
  simp only [decimalise16, selectDigits, List.take_append, decimalise, ← List.map_take, List.length_take]
  split
  · rw [Nat.min_eq_right (by omega)]
  · rw [show 16 - (digest.filter isDec).length = 0 by omega, List.take_zero, List.map_nil, List.append_nil]

/-- what is hashed: PAN ‖ PSN as BCD, left-padded with one zero nibble to whole bytes -/
def evenPad (s : PyStr) : PyStr := if s.length % 2 = 1 then '0' :: s else s

theorem bcdPanPsn_eq (pan psn : PyStr) (h : psn.length = 2) : bcdPanPsn pan psn = a2bHex (evenPad (pan ++ psn)) := by
  have : (pan ++ psn).length % 2 = pan.length % 2 := by rw [List.length_append, h, Nat.add_mod_right]
  rw [bcdPanPsn, evenPad, this]
  split <;> rfl

/-- an even number of hex digits, so it packs -/
theorem evenPad_packs (s : PyStr) (h : IsUpperHex s) : ∃ b, a2bHex (evenPad s) = .ok b ∧ hexUpper b = evenPad s := by
  have hev : IsUpperHex (evenPad s) ∧ (evenPad s).length % 2 = 0 := by
    unfold evenPad
    split
    next hodd => exact ⟨List.cons_subset.mpr ⟨zero_upperHex, h⟩, by rw [List.length_cons, Nat.add_mod, hodd]⟩
    next heven => exact ⟨h, Nat.mod_two_ne_one.mp heven⟩
  obtain ⟨b, he, _, hx⟩ := a2bHex_upperHex _ _ (Nat.mul_div_cancel' (Nat.dvd_of_mod_eq_zero hev.2)).symm hev.1
  exact ⟨b, he, hx⟩

/-- **Option B** for PANs longer than 16 digits: `Y` = the first 16 decimal digits of SHA-1 over
PAN ‖ PSN (as BCD, left-padded to whole bytes), topped up from the letters -/
theorem mk_b_eq_spec_of_gt_16 (issMk : Bytes) (pan : PyStr) (psn : Option PyStr) (hk : issMk.length = 16)
    (hp : IsDigits pan) (hs : ValidPsn psn) (hlen : 16 < pan.length) :
    ∃ hashed y, hexUpper hashed = evenPad (pan ++ psnText psn) ∧ y.length = 8 ∧
      hexUpper y = decimalise16 (sha1Hex hashed) ∧
      deriveIccMkB issMk (.str pan) (psn.map .str) = .ok (keyFromY issMk y) := by
  obtain ⟨hd, hl2⟩ := psnText_digits psn hs
  obtain ⟨hashed, he, hx⟩ := evenPad_packs (pan ++ psnText psn) (hp.upperHex.append hd.upperHex)
  obtain ⟨l16, d16⟩ := decimalise16_sha1Hex hashed
  obtain ⟨y, hyl, hyx, h⟩ := key_of_digits issMk _ hk l16 d16
  refine ⟨hashed, y, hx, hyl, hyx, ?_⟩
  simp only [deriveIccMkB, StrOrBytes.len, if_neg (Nat.not_le_of_gt hlen), psnTextR_str, StrOrBytes.text, ok_bind,
    bcdPanPsn_eq pan _ hl2, he, code_selection_eq]
  exact h

example : decimalise ['a', 'f', 'c'] = ['0', '5', '2'] := by decide
example : decimalise16 ("e0e1aa5d".toList ++ List.replicate 32 '7') = "0157777777777777".toList := by decide

end Pyemv.C03
