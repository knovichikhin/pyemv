import PyemvGen.Mod.kd_tree_sk
import PyemvProps.C13
/-! Generated by lean/mk_source.py (committed). C13 restated about the definitions translated from the
repository's source on this run (`Pyemv.Gen.*`), by the refinement theorem(s) kd_tree_sk. -/
namespace Pyemv.C13.Source
open Spec

theorem tree_sk_key (mk atc iv : Bytes) (h b : Nat) (k : Bytes) (hk : Gen.kd.derive_emv2000_tree_sk mk atc h b iv = .ok k) :
    OddParityKey k := by
  simp only [ModRefines.kd_tree_sk] at *
  exact _root_.Pyemv.C13.tree_sk_key mk atc iv h b k hk

end Pyemv.C13.Source
