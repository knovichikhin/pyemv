import PyemvGen.Mod.mac_pad2
import PyemvProps.C19
/-! Generated by lean/mk_source.py (committed). C19 restated about the definitions translated from the
repository's source on this run (`Pyemv.Gen.*`), by the refinement theorem(s) mac_pad2. -/
namespace Pyemv.C19.Source
open Spec

theorem pad2_spec (bs : Nat) (hbs : 1 ≤ bs) (d : Bytes) :
    ∃ n, Gen.mac.pad_iso9797_2 d (some bs) = .ok (d ++ [0x80] ++ zeros n) ∧ n < bs ∧ (d.length + 1 + n) % bs = 0 ∧
      Spec.unpad2 (d ++ [0x80] ++ zeros n) = some d := by
  simp only [ModRefines.mac_pad2]
  exact _root_.Pyemv.C19.pad2_spec bs hbs d

end Pyemv.C19.Source
