import PyemvGen.Mod.ac_generate_arpc_2
import PyemvProps.C15
/-! Generated by lean/mk_source.py (committed). C15 restated about the definitions translated from the
repository's source on this run (`Pyemv.Gen.*`), by the refinement theorem(s) ac_generate_arpc_2. -/
namespace Pyemv.C15.Source
open Spec

theorem arpc2_rejects (sk arqc csu : Bytes) (pad : Option Bytes)
    (h : sk.length ≠ 16 ∨ arqc.length ≠ 8 ∨ csu.length ≠ 4 ∨ (pad.getD []).length > 8) :
    Gen.ac.generate_arpc_2 sk arqc csu pad = .error .valueError := by
  simp only [ModRefines.ac_generate_arpc_2]
  exact _root_.Pyemv.C15.arpc2_rejects sk arqc csu pad h

theorem arpc2_accepts (sk arqc csu : Bytes) (pad : Option Bytes) (h1 : sk.length = 16) (h2 : arqc.length = 8)
    (h3 : csu.length = 4) (h4 : (pad.getD []).length ≤ 8) :
    ∃ v, Gen.ac.generate_arpc_2 sk arqc csu pad = .ok v := by
  simp only [ModRefines.ac_generate_arpc_2]
  exact _root_.Pyemv.C15.arpc2_accepts sk arqc csu pad h1 h2 h3 h4

end Pyemv.C15.Source
