import PyemvGen.Mod.Common
namespace Pyemv.ModRefines
open Pyemv.Gen

theorem sm_format_iso2 (p : StrOrBytes) : Gen.sm.format_iso9564_2_pin_block p = formatIso2PinBlock p := by
  unfold Gen.sm.format_iso9564_2_pin_block formatIso2PinBlock
  simp only [rep_flatten, throw_eq, pure_eq_ok, ok_bind, error_bind, bind_ok, except_match_eta]
  same_guards

end Pyemv.ModRefines
