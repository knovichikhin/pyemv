import PyemvKat.Vectors
import PyemvKat.Rivest
