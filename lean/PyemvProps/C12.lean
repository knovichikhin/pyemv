import PyemvProofs.Hex
import PyemvProofs.Tdes
/-! # C12 — PIN blocks follow ISO 9564 format 2 and the VIS layout; the PIN is recoverable -/
namespace Pyemv.C12

/-- a PIN of 4 to 12 decimal digits -/
def ValidPin (p : PyStr) : Prop := 4 ≤ p.length ∧ p.length ≤ 12 ∧ IsDigits p

theorem ValidPin.guard {p : PyStr} (hp : ValidPin p) : ¬ (p.length < 4 ∨ p.length > 12) :=
  not_or.mpr ⟨Nat.not_lt.mpr hp.1, Nat.not_lt.mpr hp.2.1⟩

theorem pack_filled (n : Nat) (f : Char) (hf : f ∈ upperHexChars) (p : PyStr) (hp : ValidPin p) (hn : 6 ≤ n) :
    ∃ body, a2bHex (p ++ List.replicate (2 * n - p.length) f) = .ok body ∧ body.length = n ∧
      hexUpper body = p ++ List.replicate (2 * n - p.length) f :=
  a2bHex_upperHex n _
    (by rw [List.length_append, List.length_replicate, Nat.add_sub_cancel' (Nat.le_trans hp.2.1 (Nat.mul_le_mul_left 2 hn))])
    (hp.2.2.upperHex.append (List.replicate_subset.mpr (.inr hf)))

/-- ISO format 2: the byte `2L`, the PIN digits, then `F` digits to 8 bytes.  Stated through the
inverse rendering: the hex string of the seven body bytes *is* `digits ‖ F…F`. -/
theorem iso2_eq_spec (p : PyStr) (hp : ValidPin p) :
    ∃ body, formatIso2PinBlock (.str p) = .ok (UInt8.ofNat (0x20 + p.length) :: body) ∧ body.length = 7 ∧
      hexUpper body = p ++ List.replicate (14 - p.length) 'F' := by
  obtain ⟨body, he, hl, hx⟩ := pack_filled 7 'F' F_upperHex p hp (by decide)
  refine ⟨body, ?_, hl, hx⟩
  simp only [formatIso2PinBlock, StrOrBytes.len, StrOrBytes.text, throw_bind, if_neg hp.guard, ok_bind, pure_eq_ok,
    toBytesBE_1 (p.length + 32) (Nat.lt_of_le_of_lt (Nat.add_le_add_right hp.2.1 32) (by decide)), he]
  rw [Nat.add_comm]; rfl

/-- the ISO-2 block has 8 bytes, its first byte carries the length, and reading `L` hex digits of the
body gives back exactly the PIN -/
theorem iso2_recovers (p : PyStr) (hp : ValidPin p) :
    ∃ blk, formatIso2PinBlock (.str p) = .ok blk ∧ blk.length = 8 ∧
      (blk.headD 0).toNat = 0x20 + p.length ∧ (hexUpper blk.tail).take p.length = p ∧
      (hexUpper blk.tail).drop p.length = List.replicate (14 - p.length) 'F' := by
  obtain ⟨body, he, hl, hx⟩ := iso2_eq_spec p hp
  refine ⟨_, he, by simp [hl], ?_, ?_, ?_⟩
  · exact UInt8.toNat_ofNat_of_lt' (Nat.lt_of_le_of_lt (Nat.add_le_add_left hp.2.1 32) (by decide))
  · simp [hx]
  · simp [hx]

/-- the VIS block before the key/current-PIN masks: the byte `0L`, the digits and `F` fill -/
def visPlain (blk mkAc : Bytes) (cur : Option PyStr) (curBlock : Bytes) : Bytes :=
  match cur with
  | none => xorB blk (zeros 4 ++ slice mkAc 4 8)
  | some _ => xorB (xorB blk curBlock) (zeros 4 ++ slice mkAc 4 8)

/-- VIS layout: `(0L ‖ digits ‖ F…)` XOR `(0000 ‖ MK_AC[4:8])`, and when a current PIN is supplied, further
XOR `current digits ‖ 0…` — so undoing those XORs yields back the length and exactly the PIN digits. -/
theorem vis_recovers (mkAc : Bytes) (p : PyStr) (cur : Option PyStr) (hmk : mkAc.length = 16) (hp : ValidPin p)
    (hc : ∀ c, cur = some c → ValidPin c) :
    ∃ blk body curBlock, formatVisPinBlock mkAc (.str p) (cur.map .str) = .ok blk ∧ blk.length = 8 ∧
      body.length = 7 ∧ hexUpper body = p ++ List.replicate (14 - p.length) 'F' ∧
      (∀ c, cur = some c → a2bHex (c ++ List.replicate (16 - c.length) '0') = .ok curBlock ∧
        hexUpper curBlock = c ++ List.replicate (16 - c.length) '0') ∧
      visPlain blk mkAc cur curBlock = UInt8.ofNat p.length :: body := by
  obtain ⟨body, he, hl, hx⟩ := pack_filled 7 'F' F_upperHex p hp (by decide)
  have hAB : (UInt8.ofNat p.length :: body).length = (zeros 4 ++ slice mkAc 4 8).length := by simp [slice, hmk, hl]
  -- `pb`, the block before the current-PIN mask
  obtain ⟨pb, hpb⟩ : ∃ pb, xorB (UInt8.ofNat p.length :: body) (zeros 4 ++ slice mkAc 4 8) = pb := ⟨_, rfl⟩
  have hl8 : pb.length = 8 := by rw [← hpb, xorB_length, ← hAB, Nat.min_self, List.length_cons, hl]
  have hun : xorB pb (zeros 4 ++ slice mkAc 4 8) = UInt8.ofNat p.length :: body := hpb ▸ xorB_cancel _ _ hAB
  -- the code up to its `match` on the current PIN: the guards pass, the length byte and the body are put together
  simp only [formatVisPinBlock, StrOrBytes.len, StrOrBytes.text, throw_bind, if_neg hp.guard, hmk, ite_ne_self, ok_bind,
    toBytesBE_1 p.length (Nat.lt_of_le_of_lt hp.2.1 (by decide)), he, List.singleton_append]
  -- `tools.xor(blockA, blockB)` is `blockB ^ blockA` bytewise: turned round, it is `pb`
  simp only [xor_eq_xorB _ _ hAB.symm, xorB_comm _ (_ :: body), hpb]
  cases cur with
  | none => exact ⟨pb, body, [], rfl, hl8, hl, hx, nofun, hun⟩
  | some c =>
    obtain ⟨cb, hce, hcl, hcx⟩ := pack_filled 8 '0' zero_upperHex c (hc c rfl) (by decide)
    have hlc : pb.length = cb.length := hl8.trans hcl.symm
    refine ⟨xorB pb cb, body, cb, ?_, ?_, hl, hx, ?_, ?_⟩
    · simp only [Option.map_some, ok_bind, pure_eq_ok, if_neg (hc c rfl).guard, hce, xor_eq_xorB _ _ hlc]
    · rw [xorB_length, ← hlc, Nat.min_self, hl8]
    · intro _ h; cases h; exact ⟨hce, hcx⟩
    · rw [visPlain, xorB_cancel pb cb hlc, hun]

/-- PINs shorter than 4 or longer than 12 digits are refused -/
theorem pin_length_guard (p : StrOrBytes) (mk : Bytes) (cur : Option StrOrBytes) (h : p.len < 4 ∨ p.len > 12) :
    formatIso2PinBlock p = .error .valueError ∧ formatVisPinBlock mk p cur = .error .valueError :=
  ⟨by rw [formatIso2PinBlock, if_pos h]; rfl, by rw [formatVisPinBlock, if_pos h]; rfl⟩

example : ValidPin ['1', '2', '3', '4', '5'] := ⟨by decide, by decide, (by decide : ∀ c ∈ ['1', '2', '3', '4', '5'], c ∈ digitChars)⟩
example : formatIso2PinBlock (.str ['1', '2', '3', '4', '5']) = .ok [0x25, 0x12, 0x34, 0x5F, 0xFF, 0xFF, 0xFF, 0xFF] := rfl

end Pyemv.C12
