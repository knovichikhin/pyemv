import PyemvProofs.TlvRoundTrip
import PyemvProofs.Bytes
/-! # The encoder's length field: the sizing loop is minimal; the field is the shortest definite form -/
namespace Pyemv.Tlv
open Pyemv.RoundTrip

/-- number of base-256 digits of `n` -/
def byteLen (n : Nat) : Nat := if h : n = 0 then 0 else byteLen (n / 256) + 1
termination_by n
decreasing_by omega

theorem byteLen_le_iff {n k : Nat} : byteLen n ≤ k ↔ n < 256 ^ k := by
  induction k generalizing n with
  | zero => rw [byteLen]; split <;> omega
  | succ k ih =>
    rw [byteLen]
    split
    · next h => subst h; simp only [Nat.zero_le, Nat.pow_pos (show 0 < 256 by decide)]
    · rw [Nat.add_le_add_iff_right, ih, Nat.pow_succ, Nat.div_lt_iff_lt_mul (by decide)]

theorem byteLen_pos {n : Nat} (h : 0 < n) : 0 < byteLen n :=
  Nat.lt_of_not_le fun h0 => by have := byteLen_le_iff.mp h0; omega

theorem byteLen_spec : ∀ (n : Nat), 0 < n → 256 ^ (byteLen n - 1) ≤ n ∧ n < 256 ^ byteLen n := by
  intro n hn
  refine ⟨Nat.le_of_not_lt fun h => ?_, byteLen_le_iff.mp (Nat.le_refl _)⟩
  have := byteLen_le_iff.mpr h
  have := byteLen_pos hn
  omega

theorem two_pow_gt (k : Nat) : k < 2 ^ (8 * k) := by
  calc k < 2 ^ k := Nat.lt_two_pow_self
    _ ≤ 2 ^ (8 * k) := Nat.pow_le_pow_right (by omega) (by omega)

/-- with enough fuel the loop stops at the least `k ≥ k₀` with `n < 256 ^ k` -/
theorem lenLoop_eq (n : Nat) : ∀ fuel k, n < k + fuel → lenLoop n fuel k = max k (byteLen n) := by
  intro fuel
  induction fuel with
  | zero =>
    intro k h
    -- no fuel is left only when `n < k`, and `k < 256 ^ k`
    exact (Nat.max_eq_left (byteLen_le_iff.mpr (Nat.lt_trans h (pow256_eq k ▸ two_pow_gt k)))).symm
  | succ f ih =>
    intro k h
    have hk : byteLen n ≤ k ↔ n ≤ 2 ^ (8 * k) - 1 := by
      rw [byteLen_le_iff, pow256_eq]
      exact (Nat.le_sub_one_iff_lt (Nat.pow_pos (by decide))).symm
    rw [lenLoop]
    split
    · next hgt =>
      have : k < byteLen n := Nat.lt_of_not_le fun hle => Nat.not_le_of_gt hgt (hk.mp hle)
      rw [ih (k + 1) (by omega), Nat.max_eq_right this, Nat.max_eq_right (Nat.le_of_lt this)]
    · next hle => exact (Nat.max_eq_left (hk.mpr (Nat.le_of_not_gt hle))).symm

/-- **minimality**: for `n ≥ 128` the number of length bytes `k` satisfies `256^(k-1) ≤ n < 256^k` -/
theorem lenLoop_minimal (n : Nat) (hn : 128 ≤ n) :
    let k := lenLoop n n 1
    1 ≤ k ∧ n < 2 ^ (8 * k) ∧ (k = 1 ∨ 2 ^ (8 * (k - 1)) ≤ n) := by
  intro k
  have hk : k = max 1 (byteLen n) := lenLoop_eq n n 1 (by omega)
  rw [← pow256_eq, ← pow256_eq]
  refine ⟨hk ▸ Nat.le_max_left .., byteLen_le_iff.mp (hk ▸ Nat.le_max_right ..), ?_⟩
  refine (Nat.lt_or_ge n (256 ^ (k - 1))).imp_left fun h => ?_
  have := byteLen_le_iff.mpr h
  omega

/-- EMV Book 3 Annex B shortest definite length: one byte up to 127, otherwise `0x80 + k` followed by
the `k`-byte minimal big-endian length; in simple mode always one byte -/
def berLen (si : Bool) (n : Nat) : Bytes :=
  if si || decide (n < 128) then [UInt8.ofNat n] else UInt8.ofNat (0x80 + byteLen n) :: toBE (byteLen n) n

theorem berLen_short {si : Bool} {n : Nat} (h : si = true ∨ n < 128) : berLen si n = [UInt8.ofNat n] :=
  if_pos (by simpa using h)

theorem berLen_long {n : Nat} (h : 128 ≤ n) : berLen false n = UInt8.ofNat (0x80 + byteLen n) :: toBE (byteLen n) n :=
  if_neg (by simpa using h)

/-- a value length the length field can express in this mode: one byte in simple mode; otherwise the count of length
bytes has to fit the seven low bits of the `0x80 + k` byte, so `k ≤ 127` -/
def LenOk (si : Bool) (n : Nat) : Prop := (si = true → n ≤ 255) ∧ (si = false → n < 256 ^ 127)

theorem lenOk_mono {si : Bool} {m n : Nat} (h : m ≤ n) (hn : LenOk si n) : LenOk si m :=
  ⟨fun a => Nat.le_trans h (hn.1 a), fun a => Nat.lt_of_le_of_lt h (hn.2 a)⟩

theorem byte_80_add (k : Nat) (hk : k < 128) : k ||| 0x80 = 0x80 + k ∧
    UInt8.ofNat (0x80 + k) &&& 0x80 ≠ 0 ∧ (UInt8.ofNat (0x80 + k) &&& 0x7F).toNat = k := by
  have h : ∀ k : Fin 128, k.val ||| 0x80 = 0x80 + k.val ∧
      UInt8.ofNat (0x80 + k.val) &&& 0x80 ≠ 0 ∧ (UInt8.ofNat (0x80 + k.val) &&& 0x7F).toNat = k.val := by
    decide +kernel
  exact h ⟨k, hk⟩

theorem top_clear_iff (b : UInt8) : b &&& 0x80 = 0 ↔ b.toNat < 128 := by
  have key : ∀ k : Fin 256, UInt8.ofNat k.val &&& 0x80 = 0 ↔ k.val < 128 := by decide +kernel
  simpa only [UInt8.ofNat_toNat] using key ⟨b.toNat, UInt8.toNat_lt b⟩

theorem byteLen_lt_128 {n : Nat} (h : n < 256 ^ 127) : byteLen n < 128 :=
  Nat.lt_succ_of_le (byteLen_le_iff.mpr h)

/-- **canonical**: whenever the mode can express the length, the encoder writes the shortest definite form -/
theorem lenField_eq {si : Bool} {n : Nat} (h : LenOk si n) : lenField si n = some (berLen si n) := by
  unfold lenField
  cases si with
  | true =>
    have := h.1 rfl
    simp only [berLen_short (.inl rfl), Bool.and_true, Bool.not_true, Bool.and_false, decide_eq_true_eq, if_false,
      Bool.false_eq_true, toBE_one, show ¬ n > 255 by omega]
  | false =>
    simp only [Bool.and_false, Bool.false_eq_true, if_false, Bool.not_false, Bool.and_true, decide_eq_true_eq]
    by_cases hn : n > 127
    · rw [berLen_long hn, if_pos hn, lenLoop_eq n n 1 (by omega), Nat.max_eq_right (byteLen_pos (by omega)),
        (byte_80_add _ (byteLen_lt_128 (h.2 rfl))).1]
    · rw [berLen_short (.inr (Nat.lt_succ_of_le (Nat.le_of_not_gt hn))), if_neg hn, toBE_one]

theorem lenField_none_iff (si : Bool) (n : Nat) : lenField si n = none ↔ (si = true ∧ n > 255) := by
  unfold lenField
  by_cases h1 : (decide (n > 255) && si) = true
  · simp only [h1, if_true, true_iff]; simp at h1; exact ⟨h1.2, h1.1⟩
  · simp only [h1, Bool.false_eq_true, if_false]
    constructor
    · intro h; split at h <;> cases h
    · rintro ⟨a, b⟩; simp [a, b] at h1

theorem lenField_some (si : Bool) (n : Nat) (h : si = true → n ≤ 255) : ∃ l, lenField si n = some l := by
  cases hl : lenField si n with
  | some l => exact ⟨l, rfl⟩
  | none => obtain ⟨a, b⟩ := (lenField_none_iff si n).mp hl; have := h a; omega

theorem le_255_of_lenField {si : Bool} {n : Nat} {l : Bytes} (h : lenField si n = some l) (hs : si = true) : n ≤ 255 :=
  Nat.le_of_not_lt fun hgt => by rw [(lenField_none_iff si n).mpr ⟨hs, hgt⟩] at h; cases h

theorem berLen_valid {si : Bool} {n : Nat} (h : LenOk si n) : ValidLen si (berLen si n) n := by
  by_cases hs : si = true ∨ n < 128
  · rw [berLen_short hs]
    have hlt : n < 256 := hs.elim (fun a => Nat.lt_succ_of_le (h.1 a)) (fun a => Nat.lt_trans a (by decide))
    exact .inl ⟨_, rfl, UInt8.toNat_ofNat_of_lt' hlt,
      hs.imp_right fun a => by rw [top_clear_iff, UInt8.toNat_ofNat_of_lt' hlt]; exact a⟩
  · have ⟨hsi, hn⟩ := not_or.mp hs
    have hsi : si = false := Bool.eq_false_iff.mpr hsi
    subst hsi
    rw [berLen_long (Nat.le_of_not_lt hn)]
    obtain ⟨-, b1, b2⟩ := byte_80_add _ (byteLen_lt_128 (h.2 rfl))
    exact .inr ⟨rfl, _, _, rfl, b1, by rw [b2, toBE_length], fromBE_toBE _ _ (byteLen_spec n (by omega)).2⟩

theorem lenOk_of_validLen {si : Bool} {l : Bytes} {n : Nat} (h : ValidLen si l n) : LenOk si n := by
  rcases h with ⟨b, _, hb, _⟩ | ⟨hsi, lb, bs, _, _, hcnt, hfrom⟩
  · have : b.toNat < 256 := UInt8.toNat_lt b
    refine ⟨fun _ => by omega, fun _ => ?_⟩
    have : (256 : Nat) ≤ 256 ^ 127 := Nat.le_self_pow (by decide) 256
    omega
  · refine ⟨fun a => (by rw [hsi] at a; cases a), fun _ => ?_⟩
    have h1 := fromBE_lt bs
    have h2 : (lb &&& 0x7F).toNat ≤ 127 := by
      have : lb &&& 0x7F ≤ 0x7F := UInt8.and_le_right
      exact this
    have h3 : 256 ^ bs.length ≤ 256 ^ 127 := Nat.pow_le_pow_right (by decide) (by omega)
    omega

theorem berLen_length_le (si : Bool) (m n : Nat) (l : Bytes) (hm : m ≤ n) (hv : ValidLen si l n) :
    (berLen si m).length ≤ l.length := by
  rcases hv with ⟨b, rfl, hb, hform⟩ | ⟨rfl, lb, bs, rfl, _, _, hfrom⟩
  · rw [berLen_short (hform.imp_right fun h => by rw [top_clear_iff] at h; omega)]
    exact Nat.le_refl _
  · rcases Nat.lt_or_ge m 128 with h | h
    · rw [berLen_short (.inr h)]; simp
    · rw [berLen_long h, List.length_cons, List.length_cons, toBE_length]
      have := byteLen_le_iff.mpr (Nat.lt_of_le_of_lt hm (hfrom ▸ fromBE_lt bs))
      omega

end Pyemv.Tlv
