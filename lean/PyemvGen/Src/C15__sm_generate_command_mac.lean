import PyemvGen.Mod.sm_generate_command_mac
import PyemvProps.C15
/-! Generated by lean/mk_source.py (committed). C15 restated about the definitions translated from the
repository's source on this run (`Pyemv.Gen.*`), by the refinement theorem(s) sm_generate_command_mac. -/
namespace Pyemv.C15.Source
open Spec

theorem command_mac_rejects (sk c : Bytes) (l : Option Nat) (h : sk.length ≠ 16) :
    Gen.sm.generate_command_mac sk c l = .error .valueError := by
  simp only [ModRefines.sm_generate_command_mac]
  exact _root_.Pyemv.C15.command_mac_rejects sk c l h

theorem command_mac_accepts (sk c : Bytes) (l : Option Nat) (h : sk.length = 16) :
    ∃ v, Gen.sm.generate_command_mac sk c l = .ok v := by
  simp only [ModRefines.sm_generate_command_mac]
  exact _root_.Pyemv.C15.command_mac_accepts sk c l h

end Pyemv.C15.Source
