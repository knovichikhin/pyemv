import PyemvGen.Mod.Common
namespace Pyemv.ModRefines
open Pyemv.Gen

theorem tools_odd_parity (n : Nat) : Gen.tools.odd_parity n = oddParity n := rfl

end Pyemv.ModRefines
