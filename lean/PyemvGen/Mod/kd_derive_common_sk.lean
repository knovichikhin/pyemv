import PyemvGen.Mod.Common
import PyemvProps.C04
import PyemvGen.Mod.tools_ecb
import PyemvGen.Mod.tools_adjust
namespace Pyemv.ModRefines
open Pyemv.Gen

theorem kd_derive_common_sk (mk r : Bytes) : Gen.kd.derive_common_sk mk r = deriveCommonSk mk r := by
  unfold Gen.kd.derive_common_sk deriveCommonSk
  simp only [tools_ecb, tools_adjust, throw_eq, pure_eq_ok, ok_bind, error_bind, bind_ok, except_match_eta]
  same_guards

/-- **C04 (common session key) about the translated source** -/
theorem source_derive_common_sk (mk r : Bytes) (hmk : mk.length = 16) (hr : r.length = 8) :
    Gen.kd.derive_common_sk mk r = .ok (adjustKeyParity (Spec.tdesE mk (r.set 2 0xF0) ++ Spec.tdesE mk (r.set 2 0x0F))) := by
  rw [kd_derive_common_sk]; exact C04.common_sk_eq_spec mk r hmk hr

end Pyemv.ModRefines
