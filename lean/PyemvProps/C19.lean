import PyemvProofs.Tdes
import PyemvProofs.Par
import PyemvProofs.DesFast
/-! # C19 — padding, XOR, check-value and TDES helpers meet their stated contracts -/
namespace Pyemv.C19
open Spec

/-- method 1: the data followed by the fewest zero bytes that make the length a positive multiple of
the block size (with minimality), for every block size ≥ 1 and every data string -/
theorem pad1_spec (bs : Nat) (hbs : 1 ≤ bs) (d : Bytes) :
    ∃ n, pad1 d (some bs) = .ok (d ++ zeros n) ∧ (d.length + n) % bs = 0 ∧ 0 < d.length + n ∧
      ∀ m, m < n → ¬ ((d.length + m) % bs = 0 ∧ 0 < d.length + m) := by
  obtain ⟨h1, h2, h3, h4⟩ := Spec.pad1_contract bs hbs d
  exact ⟨fill1 bs d.length, by rw [pad1_eq_spec bs hbs, h1], h2, h3, h4⟩

/-- method 2: the data, one 0x80 byte, then the fewest zero bytes to a multiple; the data is always
recoverable, also when it ends in 0x80 or 0x00 bytes itself -/
theorem pad2_spec (bs : Nat) (hbs : 1 ≤ bs) (d : Bytes) :
    ∃ n, pad2 d (some bs) = .ok (d ++ [0x80] ++ zeros n) ∧ n < bs ∧ (d.length + 1 + n) % bs = 0 ∧
      Spec.unpad2 (d ++ [0x80] ++ zeros n) = some d := by
  refine ⟨fill1 bs (d.length + 1), by rw [pad2_eq_spec bs hbs]; rfl, Spec.fill_after_marker_lt bs hbs _, ?_,
    Spec.unpad2_pad2 bs d⟩
  have := (Spec.pad2_length_multiple bs hbs d).1
  rwa [Spec.pad2_length] at this

theorem pad_default_block_size (d : Bytes) : pad1 d none = pad1 d (some 8) ∧ pad2 d none = pad2 d (some 8) := ⟨rfl, rfl⟩

/-- XOR of two equal-length strings (computed through big integers) is the byte-wise exclusive-or -/
theorem xor_eq_zipWith (a b : Bytes) (h : a.length = b.length) : xor a b = List.zipWith (· ^^^ ·) a b :=
  Pyemv.xor_eq_zipWith a b h

/-- … on a host of either byte order: read with `sys.byteorder == "big"` the same computation gives the same bytes -/
theorem xor_bigendian_host (a b : Bytes) (h : a.length = b.length) :
    xorBigEndian a b = List.zipWith (· ^^^ ·) a b ∧ xorBigEndian a b = xor a b :=
  ⟨xorBigEndian_eq_zipWith a b h, xor_host_independent a b h⟩

theorem xor_same_length (a b : Bytes) : (xor a b).length = a.length := xor_length a b

theorem xor_self_inverse (a b : Bytes) (h : a.length = b.length) : xor (xor a b) b = a := by
  rw [xor_eq_xorB a b h, xor_eq_xorB _ b (by simp [h]), xorB_cancel a b h]

/-- the bit-parity helper returns the XOR of the 32 low bits of any natural number … -/
theorem odd_parity_eq (v : Nat) : oddParity v = if par 32 v then 1 else 0 := oddParity_eq v

/-- … which for an integer below 2^32 is the XOR of all its bits (any number of bit positions ≥ 32) -/
theorem odd_parity_all_bits (v : Nat) (hv : v < 2 ^ 32) (m : Nat) : oddParity v = if par (32 + m) v then 1 else 0 := by
  rw [oddParity_eq, par_bits_above v 32 hv m]

/-- key check digits are the first bytes of the TDES encryption of eight zero bytes -/
theorem kcv_eq_spec (K : Bytes) (n : Nat) (hK : K.length = 16) :
    keyCheckDigits K n = .ok ((tdesE K (zeros 8)).take n) := by
  simp only [keyCheckDigits, tdesKeys_16 K hK, encBlock_16, ok_bind, pure_eq_ok, ecbUpdate_one _ _ (zeros_length 8)]

/-- the ECB helper is block-wise TDES on whole-block input, inverted by decryption, for 8/16/24-byte keys -/
theorem ecb_roundtrip (key d : Bytes) (ks : Ks) (n : Nat) (hk : tdesKeys key = .ok ks) (hd : d.length = 8 * n) :
    ∃ c, encryptTdesEcb key d = .ok c ∧ c.length = 8 * n ∧ ecbUpdate (decBlock ks) c = d := by
  refine ⟨ecbUpdate (encBlock ks) d, by simp only [encryptTdesEcb, hk, ok_bind, pure_eq_ok],
    ecbUpdate_length (encBlock_length ks) n d hd, tdes_ecb_roundtrip ks n d hd⟩

/-- the CBC helper chains from the IV and is inverted by CBC decryption, for any 8-byte IV -/
theorem cbc_roundtrip (key iv d : Bytes) (ks : Ks) (n : Nat) (hk : tdesKeys key = .ok ks) (hiv : iv.length = 8)
    (hd : d.length = 8 * n) :
    ∃ c, encryptTdesCbc key iv d = .ok c ∧ c.length = 8 * n ∧ (cbcDecUpdate (decBlock ks) iv c).1 = d := by
  refine ⟨(cbcEncUpdate (encBlock ks) iv d).1, by simp only [encryptTdesCbc, hk, hiv, ok_bind, ite_ne_self, pure_eq_ok],
    cbcEncUpdate_length (encBlock_length ks) n iv d hd, tdes_cbc_roundtrip ks n iv d hiv hd⟩

/-- keying as `cryptography` does it: exactly 8, 16 or 24 bytes are accepted -/
theorem tdesKeys_accepts_iff (key : Bytes) : (∃ ks, tdesKeys key = .ok ks) ↔ key.length = 8 ∨ key.length = 16 ∨ key.length = 24 := by
  constructor
  · rintro ⟨ks, h⟩
    -- with none of the three lengths the last branch raises
    refine Decidable.byContradiction fun hn => ?_
    simp only [not_or] at hn
    simp only [tdesKeys, if_neg hn.1, if_neg hn.2.1, if_neg hn.2.2] at h
    cases h
  · rintro (h | h | h) <;> simp [tdesKeys, h]

/-- two whole blocks under a 16-byte key: ECB is `T K B₁ ‖ T K B₂` -/
theorem ecb_two_blocks (K a b : Bytes) (hK : K.length = 16) (ha : a.length = 8) (hb : b.length = 8) :
    encryptTdesEcb K (a ++ b) = .ok (tdesE K a ++ tdesE K b) := Pyemv.ecb_two_blocks K a b hK ha hb

/-- the model's DES is the FIPS 46-3 DES on a published vector -/
theorem des_known_answer : Des.enc 0x133457799BBCDFF1 0x0123456789ABCDEF = 0x85E813540F0AB405 := by
  simp only [Des.enc, Des.crypt_eq_fast, Des.subkeys_eq_fast]; decide +kernel

example : ∃ ks, tdesKeys (List.replicate 24 (5 : UInt8)) = .ok ks := (tdesKeys_accepts_iff _).mpr (by decide)
example : pad2 [1, 2, 0x80] (some 4) = .ok [1, 2, 0x80, 0x80] := rfl

end Pyemv.C19
