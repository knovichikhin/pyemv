import PyemvGen.CvnGen
import PyemvProps.C08
/-!
# Per-class refinement: each class of cvn.py *as written* equals its documented profile row

`PyemvGen/CvnGen.lean` is regenerated from `/repo/pyemv/cvn.py` on every run by
`harness/translate_cvn.py`.  The theorems below say that the constructor and every method of every
class, as translated from the source, equal the generic functions of `PyemvModel/Cvn.lean` at the row of
the profile table.  A change to cvn.py that alters a class's behaviour breaks the corresponding proof.
-/
namespace Pyemv.CvnRefines
open Pyemv.Cvn Pyemv.CvnGen

/-- Without the trailing `counters` field the AC data ends in `++ []`, which is not definitionally the list
before it.  Everything else unfolds to the generic function at the row (`rfl`), after a case split on the optional
current PIN for the Visa PIN change, whose translation matches on it first. -/
theorem generateAc_of_noCounters (p : Profile) (card : Card) (a : AcArgs) (h : p.hasCounters = false) :
    Cvn.generateAc p card a = (do
      let sk ← skFor p.acSk card a.t9f36 a.t9f37
      Pyemv.generateAc sk
        (a.t9f02 ++ a.t9f03 ++ a.t9f1a ++ a.t95 ++ a.t5f2a ++ a.t9a ++ a.t9c ++ a.t9f37 ++ a.t82 ++ a.t9f36 ++ a.tail)
        (some p.acPad) (some 8)) := by
  simp only [Cvn.generateAc, acData, h, Bool.false_eq_true, if_false, List.append_nil]

def P_VisaCVN10 : Profile := ⟨.a, .none, .visa, false, 1, .none, .visaAtc, true, .visa, .visOnly, .visa⟩
theorem VisaCVN10_row : profile "VisaCVN10" = some P_VisaCVN10 := by simp only [C08.profile_rows]; rfl

theorem VisaCVN10_new (k1 k2 k3 : Bytes) (pan : StrOrBytes) (psn : Option StrOrBytes) :
    VisaCVN10.new k1 k2 k3 pan psn = Cvn.new P_VisaCVN10 k1 k2 k3 pan psn := rfl

theorem VisaCVN10_generate_ac (self : Card) (a1 a2 a3 a4 a5 a6 a7 a8 a9 a10 tail : Bytes) (cnt : Bytes) :
    VisaCVN10.generate_ac self a1 a2 a3 a4 a5 a6 a7 a8 a9 a10 tail = Cvn.generateAc P_VisaCVN10 self ⟨a1, a2, a3, a4, a5, a6, a7, a8, a9, a10, tail, cnt⟩ := by
  rw [generateAc_of_noCounters P_VisaCVN10 self _ rfl]; rfl

theorem VisaCVN10_generate_arpc (self : Card) (arqc atc un rc : Bytes) (pad : Option Bytes) :
    VisaCVN10.generate_arpc self arqc rc = Cvn.generateArpc P_VisaCVN10 self arqc atc un rc none := rfl

theorem VisaCVN10_generate_command_mac (self : Card) (hdr arqc atc d : Bytes) :
    VisaCVN10.generate_command_mac self hdr arqc atc d = Cvn.commandMac P_VisaCVN10 self hdr arqc atc d := rfl

theorem VisaCVN10_encrypt_command_data (self : Card) (d arqc atc : Bytes) :
    VisaCVN10.encrypt_command_data self d atc = Cvn.encrypt P_VisaCVN10 self d arqc atc := rfl

theorem VisaCVN10_generate_pin_change_command (self : Card) (pin : StrOrBytes) (arqc atc : Bytes) (cur : Option StrOrBytes) :
    VisaCVN10.generate_pin_change_command self pin arqc atc cur = Cvn.pinChange P_VisaCVN10 self pin arqc atc cur := by
  cases cur <;> rfl

def P_VisaCVN18 : Profile := ⟨.b, .commonAtc, .emv, false, 2, .commonAtc, .visaAtc, true, .visa, .visOnly, .visa⟩
theorem VisaCVN18_row : profile "VisaCVN18" = some P_VisaCVN18 := by simp only [C08.profile_rows]; rfl

theorem VisaCVN18_new (k1 k2 k3 : Bytes) (pan : StrOrBytes) (psn : Option StrOrBytes) :
    VisaCVN18.new k1 k2 k3 pan psn = Cvn.new P_VisaCVN18 k1 k2 k3 pan psn := rfl

theorem VisaCVN18_generate_ac (self : Card) (a1 a2 a3 a4 a5 a6 a7 a8 a9 a10 tail : Bytes) (cnt : Bytes) :
    VisaCVN18.generate_ac self a1 a2 a3 a4 a5 a6 a7 a8 a9 a10 tail = Cvn.generateAc P_VisaCVN18 self ⟨a1, a2, a3, a4, a5, a6, a7, a8, a9, a10, tail, cnt⟩ := by
  rw [generateAc_of_noCounters P_VisaCVN18 self _ rfl]; rfl

theorem VisaCVN18_generate_arpc (self : Card) (arqc atc un rc : Bytes) (pad : Option Bytes) :
    VisaCVN18.generate_arpc self arqc atc rc pad = Cvn.generateArpc P_VisaCVN18 self arqc atc un rc pad := rfl

theorem VisaCVN18_generate_command_mac (self : Card) (hdr arqc atc d : Bytes) :
    VisaCVN18.generate_command_mac self hdr arqc atc d = Cvn.commandMac P_VisaCVN18 self hdr arqc atc d := rfl

theorem VisaCVN18_encrypt_command_data (self : Card) (d arqc atc : Bytes) :
    VisaCVN18.encrypt_command_data self d atc = Cvn.encrypt P_VisaCVN18 self d arqc atc := rfl

theorem VisaCVN18_generate_pin_change_command (self : Card) (pin : StrOrBytes) (arqc atc : Bytes) (cur : Option StrOrBytes) :
    VisaCVN18.generate_pin_change_command self pin arqc atc cur = Cvn.pinChange P_VisaCVN18 self pin arqc atc cur := by
  cases cur <;> rfl

def P_VisaCVN22 : Profile := ⟨.b, .commonAtc, .emv, false, 2, .commonAtc, .commonArqc, true, .visa, .iso2OrVis, .visa⟩
theorem VisaCVN22_row : profile "VisaCVN22" = some P_VisaCVN22 := by simp only [C08.profile_rows]; rfl

theorem VisaCVN22_new (k1 k2 k3 : Bytes) (pan : StrOrBytes) (psn : Option StrOrBytes) :
    VisaCVN22.new k1 k2 k3 pan psn = Cvn.new P_VisaCVN22 k1 k2 k3 pan psn := rfl

theorem VisaCVN22_generate_ac (self : Card) (a1 a2 a3 a4 a5 a6 a7 a8 a9 a10 tail : Bytes) (cnt : Bytes) :
    VisaCVN22.generate_ac self a1 a2 a3 a4 a5 a6 a7 a8 a9 a10 tail = Cvn.generateAc P_VisaCVN22 self ⟨a1, a2, a3, a4, a5, a6, a7, a8, a9, a10, tail, cnt⟩ := by
  rw [generateAc_of_noCounters P_VisaCVN22 self _ rfl]; rfl

theorem VisaCVN22_generate_arpc (self : Card) (arqc atc un rc : Bytes) (pad : Option Bytes) :
    VisaCVN22.generate_arpc self arqc atc rc pad = Cvn.generateArpc P_VisaCVN22 self arqc atc un rc pad := rfl

theorem VisaCVN22_generate_command_mac (self : Card) (hdr arqc atc d : Bytes) :
    VisaCVN22.generate_command_mac self hdr arqc atc d = Cvn.commandMac P_VisaCVN22 self hdr arqc atc d := rfl

theorem VisaCVN22_encrypt_command_data (self : Card) (d arqc atc : Bytes) :
    VisaCVN22.encrypt_command_data self d arqc = Cvn.encrypt P_VisaCVN22 self d arqc atc := rfl

theorem VisaCVN22_generate_pin_change_command (self : Card) (pin : StrOrBytes) (arqc atc : Bytes) (cur : Option StrOrBytes) :
    VisaCVN22.generate_pin_change_command self pin arqc atc cur = Cvn.pinChange P_VisaCVN22 self pin arqc atc cur := by
  -- this class builds (header, ciphertext) inside the branch, so the binds are nested the other way
  cases cur <;> simp only [VisaCVN22.generate_pin_change_command, bind_assoc, pure_bind] <;> rfl

def P_InteracCVN133 : Profile := ⟨.a, .mcAtcUn, .emv, false, 1, .mcAtcUn, .commonArqc, false, .mastercard, .iso2Only, .mc⟩
theorem InteracCVN133_row : profile "InteracCVN133" = some P_InteracCVN133 := by simp only [C08.profile_rows]; rfl

theorem InteracCVN133_new (k1 k2 k3 : Bytes) (pan : StrOrBytes) (psn : Option StrOrBytes) :
    InteracCVN133.new k1 k2 k3 pan psn = Cvn.new P_InteracCVN133 k1 k2 k3 pan psn := rfl

theorem InteracCVN133_generate_ac (self : Card) (a1 a2 a3 a4 a5 a6 a7 a8 a9 a10 tail : Bytes) (cnt : Bytes) :
    InteracCVN133.generate_ac self a1 a2 a3 a4 a5 a6 a7 a8 a9 a10 tail = Cvn.generateAc P_InteracCVN133 self ⟨a1, a2, a3, a4, a5, a6, a7, a8, a9, a10, tail, cnt⟩ := by
  rw [generateAc_of_noCounters P_InteracCVN133 self _ rfl]; rfl

theorem InteracCVN133_generate_arpc (self : Card) (arqc atc un rc : Bytes) (pad : Option Bytes) :
    InteracCVN133.generate_arpc self arqc un atc rc = Cvn.generateArpc P_InteracCVN133 self arqc atc un rc none := rfl

theorem InteracCVN133_generate_command_mac (self : Card) (hdr arqc atc d : Bytes) :
    InteracCVN133.generate_command_mac self hdr arqc d = Cvn.commandMac P_InteracCVN133 self hdr arqc atc d := rfl

theorem InteracCVN133_encrypt_command_data (self : Card) (d arqc atc : Bytes) :
    InteracCVN133.encrypt_command_data self d arqc = Cvn.encrypt P_InteracCVN133 self d arqc atc := rfl

theorem InteracCVN133_generate_pin_change_command (self : Card) (pin : StrOrBytes) (arqc atc : Bytes) (cur : Option StrOrBytes) :
    InteracCVN133.generate_pin_change_command self pin arqc = Cvn.pinChange P_InteracCVN133 self pin arqc atc none := rfl

def P_MasterCardCVN16 : Profile := ⟨.a, .mcAtcUn, .emv, false, 1, .none, .commonArqc, true, .mastercard, .iso2Only, .mc⟩
theorem MasterCardCVN16_row : profile "MasterCardCVN16" = some P_MasterCardCVN16 := by simp only [C08.profile_rows]; rfl

theorem MasterCardCVN16_new (k1 k2 k3 : Bytes) (pan : StrOrBytes) (psn : Option StrOrBytes) :
    MasterCardCVN16.new k1 k2 k3 pan psn = Cvn.new P_MasterCardCVN16 k1 k2 k3 pan psn := rfl

theorem MasterCardCVN16_generate_ac (self : Card) (a1 a2 a3 a4 a5 a6 a7 a8 a9 a10 tail : Bytes) (cnt : Bytes) :
    MasterCardCVN16.generate_ac self a1 a2 a3 a4 a5 a6 a7 a8 a9 a10 tail = Cvn.generateAc P_MasterCardCVN16 self ⟨a1, a2, a3, a4, a5, a6, a7, a8, a9, a10, tail, cnt⟩ := by
  rw [generateAc_of_noCounters P_MasterCardCVN16 self _ rfl]; rfl

theorem MasterCardCVN16_generate_arpc (self : Card) (arqc atc un rc : Bytes) (pad : Option Bytes) :
    MasterCardCVN16.generate_arpc self arqc rc = Cvn.generateArpc P_MasterCardCVN16 self arqc atc un rc none := rfl

theorem MasterCardCVN16_generate_command_mac (self : Card) (hdr arqc atc d : Bytes) :
    MasterCardCVN16.generate_command_mac self hdr arqc atc d = Cvn.commandMac P_MasterCardCVN16 self hdr arqc atc d := rfl

theorem MasterCardCVN16_encrypt_command_data (self : Card) (d arqc atc : Bytes) :
    MasterCardCVN16.encrypt_command_data self d arqc = Cvn.encrypt P_MasterCardCVN16 self d arqc atc := rfl

theorem MasterCardCVN16_generate_pin_change_command (self : Card) (pin : StrOrBytes) (arqc atc : Bytes) (cur : Option StrOrBytes) :
    MasterCardCVN16.generate_pin_change_command self pin arqc atc = Cvn.pinChange P_MasterCardCVN16 self pin arqc atc none := rfl

def P_MasterCardCVN17 : Profile := ⟨.a, .mcAtcUn, .emv, true, 1, .none, .commonArqc, true, .mastercard, .iso2Only, .mc⟩
theorem MasterCardCVN17_row : profile "MasterCardCVN17" = some P_MasterCardCVN17 := by simp only [C08.profile_rows]; rfl

theorem MasterCardCVN17_new (k1 k2 k3 : Bytes) (pan : StrOrBytes) (psn : Option StrOrBytes) :
    MasterCardCVN17.new k1 k2 k3 pan psn = Cvn.new P_MasterCardCVN17 k1 k2 k3 pan psn := rfl

theorem MasterCardCVN17_generate_ac (self : Card) (a1 a2 a3 a4 a5 a6 a7 a8 a9 a10 tail cnt : Bytes) :
    MasterCardCVN17.generate_ac self a1 a2 a3 a4 a5 a6 a7 a8 a9 a10 tail cnt = Cvn.generateAc P_MasterCardCVN17 self ⟨a1, a2, a3, a4, a5, a6, a7, a8, a9, a10, tail, cnt⟩ := rfl

theorem MasterCardCVN17_generate_arpc (self : Card) (arqc atc un rc : Bytes) (pad : Option Bytes) :
    MasterCardCVN17.generate_arpc self arqc rc = Cvn.generateArpc P_MasterCardCVN17 self arqc atc un rc none := rfl

theorem MasterCardCVN17_generate_command_mac (self : Card) (hdr arqc atc d : Bytes) :
    MasterCardCVN17.generate_command_mac self hdr arqc atc d = Cvn.commandMac P_MasterCardCVN17 self hdr arqc atc d := rfl

theorem MasterCardCVN17_encrypt_command_data (self : Card) (d arqc atc : Bytes) :
    MasterCardCVN17.encrypt_command_data self d arqc = Cvn.encrypt P_MasterCardCVN17 self d arqc atc := rfl

theorem MasterCardCVN17_generate_pin_change_command (self : Card) (pin : StrOrBytes) (arqc atc : Bytes) (cur : Option StrOrBytes) :
    MasterCardCVN17.generate_pin_change_command self pin arqc atc = Cvn.pinChange P_MasterCardCVN17 self pin arqc atc none := rfl

def P_MasterCardCVN20 : Profile := ⟨.a, .commonAtc, .emv, false, 1, .commonAtc, .commonArqc, true, .mastercard, .iso2Only, .mc⟩
theorem MasterCardCVN20_row : profile "MasterCardCVN20" = some P_MasterCardCVN20 := by simp only [C08.profile_rows]; rfl

theorem MasterCardCVN20_new (k1 k2 k3 : Bytes) (pan : StrOrBytes) (psn : Option StrOrBytes) :
    MasterCardCVN20.new k1 k2 k3 pan psn = Cvn.new P_MasterCardCVN20 k1 k2 k3 pan psn := rfl

theorem MasterCardCVN20_generate_ac (self : Card) (a1 a2 a3 a4 a5 a6 a7 a8 a9 a10 tail : Bytes) (cnt : Bytes) :
    MasterCardCVN20.generate_ac self a1 a2 a3 a4 a5 a6 a7 a8 a9 a10 tail = Cvn.generateAc P_MasterCardCVN20 self ⟨a1, a2, a3, a4, a5, a6, a7, a8, a9, a10, tail, cnt⟩ := by
  rw [generateAc_of_noCounters P_MasterCardCVN20 self _ rfl]; rfl

theorem MasterCardCVN20_generate_arpc (self : Card) (arqc atc un rc : Bytes) (pad : Option Bytes) :
    MasterCardCVN20.generate_arpc self arqc atc rc = Cvn.generateArpc P_MasterCardCVN20 self arqc atc un rc none := rfl

theorem MasterCardCVN20_generate_command_mac (self : Card) (hdr arqc atc d : Bytes) :
    MasterCardCVN20.generate_command_mac self hdr arqc atc d = Cvn.commandMac P_MasterCardCVN20 self hdr arqc atc d := rfl

theorem MasterCardCVN20_encrypt_command_data (self : Card) (d arqc atc : Bytes) :
    MasterCardCVN20.encrypt_command_data self d arqc = Cvn.encrypt P_MasterCardCVN20 self d arqc atc := rfl

theorem MasterCardCVN20_generate_pin_change_command (self : Card) (pin : StrOrBytes) (arqc atc : Bytes) (cur : Option StrOrBytes) :
    MasterCardCVN20.generate_pin_change_command self pin arqc atc = Cvn.pinChange P_MasterCardCVN20 self pin arqc atc none := rfl

def P_MasterCardCVN21 : Profile := ⟨.a, .commonAtc, .emv, true, 1, .commonAtc, .commonArqc, true, .mastercard, .iso2Only, .mc⟩
theorem MasterCardCVN21_row : profile "MasterCardCVN21" = some P_MasterCardCVN21 := by simp only [C08.profile_rows]; rfl

theorem MasterCardCVN21_new (k1 k2 k3 : Bytes) (pan : StrOrBytes) (psn : Option StrOrBytes) :
    MasterCardCVN21.new k1 k2 k3 pan psn = Cvn.new P_MasterCardCVN21 k1 k2 k3 pan psn := rfl

theorem MasterCardCVN21_generate_ac (self : Card) (a1 a2 a3 a4 a5 a6 a7 a8 a9 a10 tail cnt : Bytes) :
    MasterCardCVN21.generate_ac self a1 a2 a3 a4 a5 a6 a7 a8 a9 a10 tail cnt = Cvn.generateAc P_MasterCardCVN21 self ⟨a1, a2, a3, a4, a5, a6, a7, a8, a9, a10, tail, cnt⟩ := rfl

theorem MasterCardCVN21_generate_arpc (self : Card) (arqc atc un rc : Bytes) (pad : Option Bytes) :
    MasterCardCVN21.generate_arpc self arqc atc rc = Cvn.generateArpc P_MasterCardCVN21 self arqc atc un rc none := rfl

theorem MasterCardCVN21_generate_command_mac (self : Card) (hdr arqc atc d : Bytes) :
    MasterCardCVN21.generate_command_mac self hdr arqc atc d = Cvn.commandMac P_MasterCardCVN21 self hdr arqc atc d := rfl

theorem MasterCardCVN21_encrypt_command_data (self : Card) (d arqc atc : Bytes) :
    MasterCardCVN21.encrypt_command_data self d arqc = Cvn.encrypt P_MasterCardCVN21 self d arqc atc := rfl

theorem MasterCardCVN21_generate_pin_change_command (self : Card) (pin : StrOrBytes) (arqc atc : Bytes) (cur : Option StrOrBytes) :
    MasterCardCVN21.generate_pin_change_command self pin arqc atc = Cvn.pinChange P_MasterCardCVN21 self pin arqc atc none := rfl

end Pyemv.CvnRefines
