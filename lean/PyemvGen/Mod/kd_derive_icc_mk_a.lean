import PyemvGen.Mod.Common
import PyemvGen.Mod.tools_xor
import PyemvGen.Mod.tools_ecb
import PyemvGen.Mod.tools_adjust
namespace Pyemv.ModRefines
open Pyemv.Gen

theorem kd_derive_icc_mk_a (k : Bytes) (pan : StrOrBytes) (psn : Option StrOrBytes) :
    Gen.kd.derive_icc_mk_a k pan psn = deriveIccMkA k pan psn := by
  unfold Gen.kd.derive_icc_mk_a deriveIccMkA keyFromData psnTextR
  simp only [tools_xor, rep_flatten, tools_ecb, tools_adjust, throw_eq, pure_eq_ok, ok_bind, error_bind, bind_ok, except_match_eta]
  same_guards

end Pyemv.ModRefines
