import PyemvGen.Mod.kd_derive_icc_mk_a
import PyemvGen.Mod.kd_derive_icc_mk_b
import PyemvProps.C03
/-! Generated by lean/mk_source.py (committed). C03 restated about the definitions translated from the
repository's source on this run (`Pyemv.Gen.*`), by the refinement theorem(s) kd_derive_icc_mk_a, kd_derive_icc_mk_b. -/
namespace Pyemv.C03.Source
open Spec

theorem mk_b_eq_a_of_le_16 (issMk : Bytes) (pan : StrOrBytes) (psn : Option StrOrBytes) (h : pan.len ≤ 16) :
    Gen.kd.derive_icc_mk_b issMk pan psn = Gen.kd.derive_icc_mk_a issMk pan psn := by
  simp only [ModRefines.kd_derive_icc_mk_a, ModRefines.kd_derive_icc_mk_b]
  exact _root_.Pyemv.C03.mk_b_eq_a_of_le_16 issMk pan psn h

end Pyemv.C03.Source
