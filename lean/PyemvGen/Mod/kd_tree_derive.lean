import PyemvGen.Mod.Common
import PyemvGen.Mod.tools_xor
import PyemvGen.Mod.tools_ecb
namespace Pyemv.ModRefines
open Pyemv.Gen

theorem kd_tree_derive (b : Nat) (x y : Bytes) (j : Nat) :
    Gen.kd.derive_emv2000_tree_sk.derive b x y j = treeDerive b x y j := by
  unfold Gen.kd.derive_emv2000_tree_sk.derive treeDerive
  simp only [tools_xor, tools_ecb, rep_flatten, zeros, pyMod_bind, throw_eq, pure_eq_ok, ok_bind, error_bind]
  same_guards

end Pyemv.ModRefines
