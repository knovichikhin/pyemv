import PyemvModel.Tlv
/-!
# Spec layer: BER-TLV (EMV Book 3 Annex B) as a structural grammar over sub-lists

`parseItems` reads a region of bytes into a concrete syntax tree (`Item`): a tag (first byte; if its
low five bits are set, continue while the top bit is set), a length (short / `0x80+n` then `n`
big-endian bytes / one byte in simple mode), exactly that many value bytes or failure, and recursion
*into exactly those bytes* when bit 6 is set.  `absNested` / `absFlat` fold a CST into a dict with
last-wins assignment.  Never run against the code: only the right-hand side of the refinement theorems.
-/
namespace Pyemv.TlvSpec
open Pyemv Pyemv.Tlv

inductive Item where
  | prim (tag lenb v : Bytes)
  | cons (tag lenb : Bytes) (kids : List Item)

structure GErr where
  kind : Kind
  ofs : Nat
  tagRegion : Bytes

/-- continuation scan over a list: `(some n, _)` tag has `n` bytes, `(none, k)` the list ended after `k`. -/
def scanList : Bytes → Nat → Option Nat × Nat
  | [], n => (none, n)
  | b :: rest, n => if b &&& 0x80 != 0 then scanList rest (n+1) else (some (n+1), n+1)

def tagLen : Bytes → Option Nat
  | [] => none
  | b0 :: rest => if b0 &&& 0x1F == 0x1F then (scanList rest 1).1 else some 1

structure Hd where
  tag : Bytes
  lenb : Bytes
  ln : Nat
  h : Nat      -- header size: the value is `(r.drop h).take ln`

/-- length field and value containment; `q` = the region after the `n`-byte tag, located at `o1`. -/
def lenPart (simple : Bool) (o1 n : Nat) (tag : Bytes) : Bytes → Except GErr Hd
  | [] => .error ⟨.len 1, o1, tag⟩
  | lb :: rest =>
    if lb &&& 0x80 != 0 && !simple then
      let ll := (lb &&& 0x7F).toNat
      if ll > rest.length then .error ⟨.len ll, o1 + 1, tag⟩ else
      let ln := fromBE (rest.take ll)
      if ln > rest.length - ll then .error ⟨.val ln, o1 + 1 + ll, tag⟩ else
      .ok ⟨tag, lb :: rest.take ll, ln, n + 1 + ll⟩
    else
      if lb.toNat > rest.length then .error ⟨.val lb.toNat, o1 + 1, tag⟩ else
      .ok ⟨tag, [lb], lb.toNat, n + 1⟩

/-- header of the object at the head of a non-empty region `r` located at absolute offset `base`. -/
def header (simple : Bool) (base : Nat) (r : Bytes) : Except GErr Hd :=
  match tagLen r with
  | none => .error ⟨.tag, base, r⟩
  | some n => lenPart simple (base + n) n (r.take n) (r.drop n)

theorem scanList_some {r : Bytes} {n m k : Nat} (h : scanList r n = (some m, k)) : n + 1 ≤ m ∧ m ≤ n + r.length := by
  induction r generalizing n with
  | nil => cases h
  | cons b rest ih =>
    unfold scanList at h
    rw [List.length_cons]
    split at h
    · have := ih h; omega
    · cases h; omega

theorem tagLen_some {r : Bytes} {n : Nat} (h : tagLen r = some n) : 1 ≤ n ∧ n ≤ r.length := by
  cases r with
  | nil => cases h
  | cons b0 rest =>
    rw [tagLen] at h
    rw [List.length_cons]
    split at h
    · cases hs : scanList rest 1 with
      | mk o k => rw [hs] at h; cases h; have := scanList_some hs; omega
    · cases h; omega

/-- the outcomes of `lenPart`: a fault other than a tag fault, which names `tag`; or `q` begins with the length
field `lb :: rest.take ll`, in the long form or (`ll = 0`) in the short form, and has `ln` more bytes -/
theorem lenPart_cases (simple : Bool) (o1 n : Nat) (tag q : Bytes) :
    (∃ k o, lenPart simple o1 n tag q = .error ⟨k, o, tag⟩ ∧ k ≠ .tag) ∨
    ∃ lb rest ll ln, q = lb :: rest ∧
      lenPart simple o1 n tag q = .ok ⟨tag, lb :: rest.take ll, ln, n + 1 + ll⟩ ∧ ll + ln ≤ rest.length ∧
      ((lb &&& 0x80 ≠ 0 ∧ simple = false ∧ ll = (lb &&& 0x7F).toNat ∧ ln = fromBE (rest.take ll)) ∨
        ((simple = true ∨ lb &&& 0x80 = 0) ∧ ll = 0 ∧ ln = lb.toNat)) := by
  cases q with
  | nil => exact .inl ⟨_, _, rfl, nofun⟩
  | cons lb rest =>
    rw [lenPart]
    dsimp only
    by_cases hc : (lb &&& 0x80 != 0 && !simple) = true
    · rw [if_pos hc]
      by_cases h1 : (lb &&& 0x7F).toNat > rest.length
      · exact .inl ⟨_, _, if_pos h1, nofun⟩
      by_cases h2 : fromBE (rest.take (lb &&& 0x7F).toNat) > rest.length - (lb &&& 0x7F).toNat
      · exact .inl ⟨_, _, by rw [if_neg h1, if_pos h2], by nofun⟩
      · simp only [Bool.and_eq_true, bne_iff_ne, ne_eq, Bool.not_eq_true'] at hc
        exact .inr ⟨_, _, _, _, rfl, by rw [if_neg h1, if_neg h2],
          Nat.add_le_of_le_sub' (Nat.le_of_not_gt h1) (Nat.le_of_not_gt h2), .inl ⟨hc.1, hc.2, rfl, rfl⟩⟩
    · rw [if_neg hc]
      by_cases h1 : lb.toNat > rest.length
      · exact .inl ⟨_, _, if_pos h1, nofun⟩
      · refine .inr ⟨_, _, 0, _, rfl, if_neg h1, (Nat.zero_add _).symm ▸ Nat.le_of_not_gt h1, .inr ⟨?_, rfl, rfl⟩⟩
        cases simple
        · exact .inr (by simpa using hc)
        · exact .inl rfl

theorem lenPart_ok {simple o1 n tag q hd} (h : lenPart simple o1 n tag q = .ok hd) :
    n + 1 ≤ hd.h ∧ hd.h + hd.ln ≤ n + q.length := by
  obtain ⟨_, _, e, _⟩ | ⟨lb, rest, ll, ln, rfl, e, hle, _⟩ := lenPart_cases simple o1 n tag q
  · rw [e] at h; cases h
  · rw [e] at h; cases h
    rw [List.length_cons]
    dsimp only
    omega

theorem header_ok {simple base r hd} (h : header simple base r = .ok hd) :
    2 ≤ hd.h ∧ hd.h + hd.ln ≤ r.length := by
  unfold header at h
  split at h
  · simp at h
  · rename_i n hn
    have ⟨h1, h2⟩ := tagLen_some hn
    have := lenPart_ok h
    simp only [List.length_drop] at this
    omega

/-- the items of a region.  A fault comes with the items completed or opened before it, an open template last and
holding what it had received by then: what C17 says the partial tree of a `DecodeError` is the fold of. -/
def parseItems (simple : Bool) (base : Nat) (r : Bytes) : Except (GErr × List Item) (List Item) :=
  if hr : r = [] then .ok [] else
  match hh : header simple base r with
  | .error e => .error (e, [])
  | .ok hd =>
    let val := (r.drop hd.h).take hd.ln
    let rest := r.drop (hd.h + hd.ln)
    if (r.headD 0) &&& 0x20 != 0 then
      match parseItems simple (base + hd.h) val with
      | .error (e, part) => .error (e, [Item.cons hd.tag hd.lenb part])
      | .ok kids =>
        match parseItems simple (base + hd.h + hd.ln) rest with
        | .error (e, part) => .error (e, Item.cons hd.tag hd.lenb kids :: part)
        | .ok more => .ok (Item.cons hd.tag hd.lenb kids :: more)
    else
      match parseItems simple (base + hd.h + hd.ln) rest with
      | .error (e, part) => .error (e, Item.prim hd.tag hd.lenb val :: part)
      | .ok more => .ok (Item.prim hd.tag hd.lenb val :: more)
termination_by r.length
decreasing_by
  all_goals have := header_ok hh
  all_goals simp only [List.length_take, List.length_drop]
  all_goals omega

def absNested (dec : Dict) : List Item → Dict
  | [] => dec
  | .prim t _ v :: more => absNested (dec.set t (.prim v)) more
  | .cons t _ kids :: more => absNested (dec.set t (.cons (absNested [] kids))) more

def absFlat (dec : Dict) : List Item → Dict
  | [] => dec
  | .prim t _ v :: more => absFlat (dec.set t (.prim v)) more
  | .cons _ _ kids :: more => absFlat (absFlat dec kids) more

def absInto (flatten : Bool) (dec : Dict) (items : List Item) : Dict :=
  if flatten then absFlat dec items else absNested dec items

end Pyemv.TlvSpec
