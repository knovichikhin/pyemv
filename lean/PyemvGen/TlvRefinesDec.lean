import PyemvGen.TlvRefinesCommon
import PyemvProofs.TlvDecode
/-! decoder half: `TlvGen.decode = Tlv.decodeC` -/
namespace Pyemv.TlvRefines
open Pyemv.Tlv Pyemv.TlvGen

/-! ### aliasing: `dec[tag] = {}` then `_decode(…, dec[tag], …)` -/

theorem getCons_set_nil {α} (d : DictC α) (k : Bytes) : DictC.getCons (DictC.set d k (.cons [])) k = [] := by
  unfold DictC.getCons; rw [DictC.set_eq, find?_assign_self]

theorem set_set {α} (d : DictC α) (k : Bytes) (v w : NodeC α) : DictC.set (DictC.set d k v) k w = DictC.set d k w :=
  assign_assign d k v w

theorem while1_scan (data : Bytes) (ofs : Nat) : ∀ (f n : Nat), 1 ≤ f → data.length + 1 ≤ ofs + n + f →
    _decode_while1 data ofs f n ≠ .fuel ∧ toScan (_decode_while1 data ofs f n) = scanCont f data ofs n := by
  intro f
  induction f with
  | zero => intro n h; omega
  | succ f ih =>
    intro n _ hlen
    unfold _decode_while1 scanCont
    cases hb : data[ofs + n]? with
    | none => exact ⟨nofun, rfl⟩
    | some b =>
      have hlt : ofs + n < data.length := (List.getElem?_eq_some_iff.mp hb).1
      by_cases hc : (b &&& 128 != 0) = true
      · have := ih (n + 1) (by omega) (by omega)
        simp only [hc, if_true]
        exact this
      · simp only [hc, if_false, Bool.false_eq_true]
        exact ⟨nofun, rfl⟩

/-! ### `_decode`

The translated body is in continuation-passing form: its last top-level `let`, `k1 constructed tag_name_len`, is
everything after the tag scan, and is called from both outcomes of the scan.  The model computes a `Hdr` first
(`readHeader`, `afterTag`) and then acts on it; `afterHeader` names that second half, so that what `k1` computes can
be said.  `k1` is proved once and then made opaque.  Inside, all `let`s are unfolded and both sides are brought to
the same tree of guards (`afterHeader` pushed to the leaves by `apply_ite`), which is then descended by congruence.
`split` is kept away from the guards: on an `if` it tries every hypothesis against every `if` of the goal, which on
the unfolded body costs more than the whole of this proof; it is used at the leaves only, on the `match` over the inner
call's outcome. -/

/-- what `decodeSeqC` does with the header it has read -/
def afterHeader {α} (conv : Bytes → Bytes → α) (fl si : Bool) (data : Bytes) (f lim : Nat) (dec : DictC α) (log : Log) :
    Hdr → ResC α
  | .err e => .err e dec log
  | .crash => .crash
  | .ok tag constructed vo tlen =>
    if constructed then
      if fl then
        match decodeSeqC conv fl si data f vo (vo + tlen) dec log with
        | .ok o d l => decodeSeqC conv fl si data f o lim d l
        | r => r
      else
        match decodeSeqC conv fl si data f vo (vo + tlen) [] log with
        | .ok o d l => decodeSeqC conv fl si data f o lim (dec.set tag (.cons d)) l
        | .err e d l => .err e (dec.set tag (.cons d)) l
        | .crash => .crash
        | .fuel => .fuel
    else
      let v := slice data vo (vo + tlen)
      decodeSeqC conv fl si data f (vo + tlen) lim (dec.set tag (.prim (conv tag v))) (log ++ [(tag, v)])

theorem afterHeader_err {α} (conv : Bytes → Bytes → α) (fl si : Bool) (data : Bytes) (f lim : Nat) (dec : DictC α)
    (log : Log) (e : DErr) : afterHeader conv fl si data f lim dec log (.err e) = .err e dec log := rfl

theorem afterHeader_crash {α} (conv : Bytes → Bytes → α) (fl si : Bool) (data : Bytes) (f lim : Nat) (dec : DictC α)
    (log : Log) : afterHeader conv fl si data f lim dec log .crash = .crash := rfl

theorem decodeSeqC_succ {α} (conv : Bytes → Bytes → α) (fl si : Bool) (data : Bytes) (f ofs lim : Nat) (dec : DictC α)
    (log : Log) : decodeSeqC conv fl si data (f+1) ofs lim dec log =
      if ¬ ofs < lim then .ok ofs dec log else afterHeader conv fl si data f lim dec log (readHeader si data ofs lim) :=
  rfl

theorem decode_loop_eq {α} (conv : Bytes → Bytes → α) (fl si : Bool) (data : Bytes) :
    ∀ (f ofs lim : Nat) (dec : DictC α) (log : Log),
      _decode conv fl si data f ofs lim dec log = decodeSeqC conv fl si data f ofs lim dec log := by
  intro f
  induction f with
  | zero => intros; rfl
  | succ f ih =>
    intro ofs lim dec log
    rw [_decode.eq_2, decodeSeqC_succ]
    extract_lets -underBinder -merge
    rename_i k1
    have hk1 : ∀ c n, k1 c n = afterHeader conv fl si data f lim dec log
        (if ofs + n > lim then .err ⟨.tag, slice data ofs (min (ofs + n) lim), ofs⟩
         else afterTag si data lim c (slice data ofs (ofs + n)) (ofs + n)) := by
      intro c n
      -- comparisons are brought to one form (`ofst >= ofst_limit` for `ofst + 1 > ofst_limit`)
      simp only [k1, ih, getCons_set_nil, set_set, decide_eq_true_eq, ge_iff_le, gt_iff_lt, Nat.lt_add_one_iff]
      by_cases hgt : lim < ofs + n
      · -- the tag that overruns its parent, also written as `data[ofst:ofst_limit]`
        simp only [hgt, if_true, afterHeader_err, Nat.min_eq_right (Nat.le_of_lt hgt)]
      · simp only [hgt, if_false, afterTag, gt_iff_lt, Nat.lt_add_one_iff]
        cases data[ofs + n]? <;>
          simp only [apply_ite (afterHeader conv fl si data f lim dec log), afterHeader_err, afterHeader_crash]
        all_goals try simp only [afterHeader]
        -- both sides are now the same tree of guards and differ only where the inner call's outcome is matched
        repeat' refine ite_congr rfl (fun _ => ?_) (fun _ => ?_)
        all_goals first | rfl | (split <;> rename_i h <;> simp only [h])
    clear_value k1
    by_cases h1 : ofs < lim
    · simp +zetaDelta only [h1, decide_true, if_true, not_true, if_false, readHeader, scanTag]
      cases h0 : data[ofs]? with
      | none => rfl
      | some b0 =>
        simp only [hk1]
        split
        · obtain ⟨hne, hs⟩ := while1_scan data ofs (data.length+1) 1 (by omega) (by omega)
          -- the model's scan is `toScan` of the loop's outcome, and each outcome then computes
          rw [← hs]
          generalize _decode_while1 data ofs (data.length + 1) 1 = w at hne ⊢
          cases w with
          | fuel => exact absurd rfl hne
          | indexErr m => rfl
          | done m => rfl
        · rfl
    · simp only [h1, decide_false, if_true, not_false_eq_true]; rfl

/-- **`decode` translated from the source = the model's `decodeC`**, for every conversion function, option
combination (absent = `None`) and input -/
theorem tlv_decode {α} (conv : Bytes → Bytes → α) (fl si : Option Bool) (data : Bytes) :
    TlvGen.decode conv fl si data = decodeC conv (fl.getD false) (si.getD false) data := by
  unfold TlvGen.decode decodeC
  rw [decode_loop_eq]
  cases fl <;> cases si <;> rfl

/-- the decoder translated from the source, run with any conversion function, stands in the naturality relation to
the model's plain `decode`: same success or failure, same fault kind, tag and offset, dictionaries related by mapping the
conversion over the primitive values.  (The harness names this theorem as the tie between the source and `decode`.) -/
theorem tlv_decode_sim {α} (conv : Bytes → Bytes → α) (fl si : Option Bool) (data : Bytes) :
    Refine.SimRel conv (Tlv.decode (fl.getD false) (si.getD false) data) (TlvGen.decode conv fl si data) := by
  rw [tlv_decode]; exact Refine.decodeC_sim conv _ _ data

end Pyemv.TlvRefines
