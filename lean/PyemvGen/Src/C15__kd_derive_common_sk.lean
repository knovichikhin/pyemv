import PyemvGen.Mod.kd_derive_common_sk
import PyemvProps.C15
/-! Generated by lean/mk_source.py (committed). C15 restated about the definitions translated from the
repository's source on this run (`Pyemv.Gen.*`), by the refinement theorem(s) kd_derive_common_sk. -/
namespace Pyemv.C15.Source
open Spec

theorem common_sk_rejects (mk r : Bytes) (h : mk.length ≠ 16 ∨ r.length ≠ 8) :
    Gen.kd.derive_common_sk mk r = .error .valueError := by
  simp only [ModRefines.kd_derive_common_sk]
  exact _root_.Pyemv.C15.common_sk_rejects mk r h

theorem common_sk_accepts (mk r : Bytes) (h1 : mk.length = 16) (h2 : r.length = 8) :
    ∃ v, Gen.kd.derive_common_sk mk r = .ok v := by
  simp only [ModRefines.kd_derive_common_sk]
  exact _root_.Pyemv.C15.common_sk_accepts mk r h1 h2

end Pyemv.C15.Source
