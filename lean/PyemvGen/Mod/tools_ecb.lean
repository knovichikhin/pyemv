import PyemvGen.Mod.Common
namespace Pyemv.ModRefines
open Pyemv.Gen

theorem tools_ecb (k d : Bytes) : Gen.tools.encrypt_tdes_ecb k d = encryptTdesEcb k d := by
  unfold Gen.tools.encrypt_tdes_ecb encryptTdesEcb
  rfl

end Pyemv.ModRefines
