import PyemvGen.Mod.tools_adjust
import PyemvGen.Mod.tools_cbc
import PyemvGen.Mod.tools_ecb
import PyemvProps.C13
/-! Generated by lean/mk_source.py (committed). C13 restated about the definitions translated from the
repository's source on this run (`Pyemv.Gen.*`), by the refinement theorem(s) tools_adjust, tools_cbc, tools_ecb. -/
namespace Pyemv.C13.Source
open Spec

theorem adjust_preserves_encryption (k iv d : Bytes) :
    ∃ r, Gen.tools.adjust_key_parity k = .ok r ∧ Gen.tools.encrypt_tdes_ecb r d = Gen.tools.encrypt_tdes_ecb k d ∧
      Gen.tools.encrypt_tdes_cbc r iv d = Gen.tools.encrypt_tdes_cbc k iv d := by
  refine ⟨_, ModRefines.tools_adjust k, ?_⟩
  simp only [ModRefines.tools_ecb, ModRefines.tools_cbc]
  exact (_root_.Pyemv.C13.adjust_preserves_encryption k iv d).2

end Pyemv.C13.Source
