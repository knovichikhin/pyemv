import PyemvGen.Mod.Common
import PyemvGen.Mod.mac_pad1
namespace Pyemv.ModRefines
open Pyemv.Gen

theorem mac_pad2 (d : Bytes) (bs : Option Nat) : Gen.mac.pad_iso9797_2 d bs = pad2 d bs := by
  unfold Gen.mac.pad_iso9797_2 pad2
  simp only [mac_pad1, throw_eq, pure_eq_ok, ok_bind, error_bind, bind_ok, except_match_eta]
  same_guards

end Pyemv.ModRefines
