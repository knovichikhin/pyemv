import PyemvGen.Mod.ac_generate_ac
import PyemvProps.C01
/-! Generated by lean/mk_source.py (committed). C01 restated about the definitions translated from the
repository's source on this run (`Pyemv.Gen.*`), by the refinement theorem(s) ac_generate_ac. -/
namespace Pyemv.C01.Source
open Spec

theorem generate_ac_eq_spec (sk data : Bytes) (pt : Option PaddingType) (len : Option Nat)
    (hsk : sk.length = 16) (hpt : pt ≠ some .other) :
    Gen.ac.generate_ac sk data pt len =
      .ok ((alg3 (sk.take 8) (sk.drop 8) (padFor (pt.getD .emv) data)).take (len.getD 8)) := by
  simp only [ModRefines.ac_generate_ac]
  exact _root_.Pyemv.C01.generate_ac_eq_spec sk data pt len hsk hpt

theorem truncation_leftmost (sk data : Bytes) (pt : Option PaddingType) (n : Nat)
    (hsk : sk.length = 16) (hpt : pt ≠ some .other) (hn : n ≤ 8) :
    ∃ full, Gen.ac.generate_ac sk data pt none = .ok full ∧ full.length = 8 ∧
      Gen.ac.generate_ac sk data pt (some n) = .ok (full.take n) ∧ (full.take n).length = n := by
  simp only [ModRefines.ac_generate_ac]
  exact _root_.Pyemv.C01.truncation_leftmost sk data pt n hsk hpt hn

end Pyemv.C01.Source
