import PyemvGen.Mod.sm_format_iso2
import PyemvGen.Mod.sm_format_vis
import PyemvProps.C12
/-! Generated by lean/mk_source.py (committed). C12 restated about the definitions translated from the
repository's source on this run (`Pyemv.Gen.*`), by the refinement theorem(s) sm_format_iso2, sm_format_vis. -/
namespace Pyemv.C12.Source
open Spec

theorem pin_length_guard (p : StrOrBytes) (mk : Bytes) (cur : Option StrOrBytes) (h : p.len < 4 ∨ p.len > 12) :
    Gen.sm.format_iso9564_2_pin_block p = .error .valueError ∧ Gen.sm.format_vis_pin_block mk p cur = .error .valueError := by
  simp only [ModRefines.sm_format_iso2, ModRefines.sm_format_vis]
  exact _root_.Pyemv.C12.pin_length_guard p mk cur h

end Pyemv.C12.Source
