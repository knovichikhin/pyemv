import PyemvProofs.Tdes
/-! # C06 — the issuer-script MAC is the method-2-padded Algorithm 3 MAC -/
namespace Pyemv.C06
open Spec

theorem command_mac_eq_spec (sk cmd : Bytes) (len : Option Nat) (hsk : sk.length = 16) :
    generateCommandMac sk cmd len =
      .ok ((alg3 (sk.take 8) (sk.drop 8) (Spec.pad2 8 cmd)).take (len.getD 8)) := by
  simp only [generateCommandMac, hsk, ite_ne_self]
  exact mac3_key16_pad2 sk cmd len hsk

/-- method 2 always adds at least one byte: a whole extra block when the command is block aligned -/
theorem pad2_adds_at_least_one (cmd : Bytes) :
    (Spec.pad2 8 cmd).length > cmd.length ∧ (Spec.pad2 8 cmd).length % 8 = 0 ∧
    (cmd.length % 8 = 0 → (Spec.pad2 8 cmd).length = cmd.length + 8) := by
  rw [Spec.pad2_length_8]
  omega

/-- a card that recomputes the MAC from the same key and command bytes accepts it -/
def cardVerifies (sk cmd mac : Bytes) : Bool :=
  (alg3 (sk.take 8) (sk.drop 8) (Spec.pad2 8 cmd)).take mac.length == mac

theorem card_accepts (sk cmd : Bytes) (len : Option Nat) (hsk : sk.length = 16) (hlen : len.getD 8 ≤ 8) :
    ∃ m, generateCommandMac sk cmd len = .ok m ∧ m.length = len.getD 8 ∧ cardVerifies sk cmd m = true := by
  have hl := alg3_take_length (sk.take 8) (sk.drop 8) (Spec.pad2 8 cmd) hlen
  refine ⟨_, command_mac_eq_spec sk cmd len hsk, hl, ?_⟩
  rw [cardVerifies, hl]; simp

example : (List.replicate 16 (3 : UInt8)).length = 16 := by decide

end Pyemv.C06
