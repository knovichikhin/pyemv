import PyemvGen.CvnRefines
import PyemvProps.C08
import PyemvProps.C13
import PyemvProps.C16
/-! Generated by lean/mk_cvn_source.py (committed). C08 / C13 / C16 restated about the eight classes *as translated
from the repository's `pyemv/cvn.py` on this run* (`Pyemv.CvnGen.<Class>.*`), by the per-class refinement theorems of
`CvnRefines` and the profile-level property theorems. -/
namespace Pyemv.CvnSource
open Pyemv.Cvn Pyemv.CvnGen Pyemv.CvnRefines

/-- **C13**: the three keys stored by `VisaCVN10(…)` are 16-byte odd-parity keys. -/
theorem VisaCVN10_ctor_keys (k1 k2 k3 : Bytes) (pan : StrOrBytes) (psn : Option StrOrBytes) (card : Card)
    (h : VisaCVN10.new k1 k2 k3 pan psn = .ok card) :
    OddParityKey card.ac ∧ OddParityKey card.smi ∧ OddParityKey card.smc := by
  rw [VisaCVN10_new] at h; exact C13.ctor_keys _ k1 k2 k3 pan psn card h

/-- **C08, end to end**: a PIN-change command built by a `VisaCVN10` object is header ‖ ciphertext ‖ 8-byte MAC with
`Lc` = the bytes that follow, and a card holding the same keys verifies the MAC and recovers exactly the new PIN. -/
theorem VisaCVN10_card_accepts_and_recovers (k1 k2 k3 : Bytes) (pan : StrOrBytes) (psn : Option StrOrBytes) (card : Card)
    (pin : PyStr) (cur : Option PyStr) (arqc atc : Bytes) (hnew : VisaCVN10.new k1 k2 k3 pan psn = .ok card)
    (hq : arqc.length = 8) (ha : atc.length = 2) (hp : C12.ValidPin pin) (hc : ∀ c, cur = some c → C12.ValidPin c) :
    ∃ hdr ct mac, VisaCVN10.generate_pin_change_command card (.str pin) arqc atc (cur.map .str) = .ok (hdr ++ ct ++ mac) ∧
      hdr.length = 5 ∧ mac.length = 8 ∧ (hdr.getD 4 0).toNat = ct.length + mac.length ∧
      C08.cardProcess P_VisaCVN10 card arqc atc (hdr ++ ct ++ mac) cur = some pin := by
  rw [VisaCVN10_new] at hnew; rw [VisaCVN10_generate_pin_change_command]
  exact C08.card_accepts_and_recovers_of_new P_VisaCVN10 k1 k2 k3 pan psn card pin cur arqc atc (Or.inl ⟨rfl, rfl⟩) hnew hq ha hp hc

/-- **C16**: text and byte forms of PAN / PSN / PIN / current PIN give the same `VisaCVN10` object and the same
PIN-change command. -/
theorem VisaCVN10_forms (k1 k2 k3 : Bytes) (a b : StrOrBytes) (c d : Option StrOrBytes) (h : C16.SameText a b)
    (hc : C16.SameText (Cvn.psnOr00 c) (Cvn.psnOr00 d)) : VisaCVN10.new k1 k2 k3 a c = VisaCVN10.new k1 k2 k3 b d := by
  rw [VisaCVN10_new, VisaCVN10_new]; exact C16.ctor_forms _ k1 k2 k3 a b c d h hc

theorem VisaCVN10_pin_change_forms (card : Card) (a b : StrOrBytes) (c d : Option StrOrBytes) (arqc atc : Bytes)
    (h : C16.SameText a b) (hc : C16.SameTextOpt c d) :
    VisaCVN10.generate_pin_change_command card a arqc atc c = VisaCVN10.generate_pin_change_command card b arqc atc d := by
  rw [VisaCVN10_generate_pin_change_command, VisaCVN10_generate_pin_change_command]
  exact C16.pin_change_forms _ card a b c d arqc atc h hc

/-- **C13**: the three keys stored by `VisaCVN18(…)` are 16-byte odd-parity keys. -/
theorem VisaCVN18_ctor_keys (k1 k2 k3 : Bytes) (pan : StrOrBytes) (psn : Option StrOrBytes) (card : Card)
    (h : VisaCVN18.new k1 k2 k3 pan psn = .ok card) :
    OddParityKey card.ac ∧ OddParityKey card.smi ∧ OddParityKey card.smc := by
  rw [VisaCVN18_new] at h; exact C13.ctor_keys _ k1 k2 k3 pan psn card h

/-- **C08, end to end**: a PIN-change command built by a `VisaCVN18` object is header ‖ ciphertext ‖ 8-byte MAC with
`Lc` = the bytes that follow, and a card holding the same keys verifies the MAC and recovers exactly the new PIN. -/
theorem VisaCVN18_card_accepts_and_recovers (k1 k2 k3 : Bytes) (pan : StrOrBytes) (psn : Option StrOrBytes) (card : Card)
    (pin : PyStr) (cur : Option PyStr) (arqc atc : Bytes) (hnew : VisaCVN18.new k1 k2 k3 pan psn = .ok card)
    (hq : arqc.length = 8) (ha : atc.length = 2) (hp : C12.ValidPin pin) (hc : ∀ c, cur = some c → C12.ValidPin c) :
    ∃ hdr ct mac, VisaCVN18.generate_pin_change_command card (.str pin) arqc atc (cur.map .str) = .ok (hdr ++ ct ++ mac) ∧
      hdr.length = 5 ∧ mac.length = 8 ∧ (hdr.getD 4 0).toNat = ct.length + mac.length ∧
      C08.cardProcess P_VisaCVN18 card arqc atc (hdr ++ ct ++ mac) cur = some pin := by
  rw [VisaCVN18_new] at hnew; rw [VisaCVN18_generate_pin_change_command]
  exact C08.card_accepts_and_recovers_of_new P_VisaCVN18 k1 k2 k3 pan psn card pin cur arqc atc (Or.inl ⟨rfl, rfl⟩) hnew hq ha hp hc

/-- **C16**: text and byte forms of PAN / PSN / PIN / current PIN give the same `VisaCVN18` object and the same
PIN-change command. -/
theorem VisaCVN18_forms (k1 k2 k3 : Bytes) (a b : StrOrBytes) (c d : Option StrOrBytes) (h : C16.SameText a b)
    (hc : C16.SameText (Cvn.psnOr00 c) (Cvn.psnOr00 d)) : VisaCVN18.new k1 k2 k3 a c = VisaCVN18.new k1 k2 k3 b d := by
  rw [VisaCVN18_new, VisaCVN18_new]; exact C16.ctor_forms _ k1 k2 k3 a b c d h hc

theorem VisaCVN18_pin_change_forms (card : Card) (a b : StrOrBytes) (c d : Option StrOrBytes) (arqc atc : Bytes)
    (h : C16.SameText a b) (hc : C16.SameTextOpt c d) :
    VisaCVN18.generate_pin_change_command card a arqc atc c = VisaCVN18.generate_pin_change_command card b arqc atc d := by
  rw [VisaCVN18_generate_pin_change_command, VisaCVN18_generate_pin_change_command]
  exact C16.pin_change_forms _ card a b c d arqc atc h hc

/-- **C13**: the three keys stored by `VisaCVN22(…)` are 16-byte odd-parity keys. -/
theorem VisaCVN22_ctor_keys (k1 k2 k3 : Bytes) (pan : StrOrBytes) (psn : Option StrOrBytes) (card : Card)
    (h : VisaCVN22.new k1 k2 k3 pan psn = .ok card) :
    OddParityKey card.ac ∧ OddParityKey card.smi ∧ OddParityKey card.smc := by
  rw [VisaCVN22_new] at h; exact C13.ctor_keys _ k1 k2 k3 pan psn card h

/-- **C08, end to end**: a PIN-change command built by a `VisaCVN22` object is header ‖ ciphertext ‖ 8-byte MAC with
`Lc` = the bytes that follow, and a card holding the same keys verifies the MAC and recovers exactly the new PIN. -/
theorem VisaCVN22_card_accepts_and_recovers (k1 k2 k3 : Bytes) (pan : StrOrBytes) (psn : Option StrOrBytes) (card : Card)
    (pin : PyStr) (cur : Option PyStr) (arqc atc : Bytes) (hnew : VisaCVN22.new k1 k2 k3 pan psn = .ok card)
    (hq : arqc.length = 8) (ha : atc.length = 2) (hp : C12.ValidPin pin) (hc : ∀ c, cur = some c → C12.ValidPin c) :
    ∃ hdr ct mac, VisaCVN22.generate_pin_change_command card (.str pin) arqc atc (cur.map .str) = .ok (hdr ++ ct ++ mac) ∧
      hdr.length = 5 ∧ mac.length = 8 ∧ (hdr.getD 4 0).toNat = ct.length + mac.length ∧
      C08.cardProcess P_VisaCVN22 card arqc atc (hdr ++ ct ++ mac) cur = some pin := by
  rw [VisaCVN22_new] at hnew; rw [VisaCVN22_generate_pin_change_command]
  exact C08.card_accepts_and_recovers_of_new P_VisaCVN22 k1 k2 k3 pan psn card pin cur arqc atc (Or.inl ⟨rfl, rfl⟩) hnew hq ha hp hc

/-- **C16**: text and byte forms of PAN / PSN / PIN / current PIN give the same `VisaCVN22` object and the same
PIN-change command. -/
theorem VisaCVN22_forms (k1 k2 k3 : Bytes) (a b : StrOrBytes) (c d : Option StrOrBytes) (h : C16.SameText a b)
    (hc : C16.SameText (Cvn.psnOr00 c) (Cvn.psnOr00 d)) : VisaCVN22.new k1 k2 k3 a c = VisaCVN22.new k1 k2 k3 b d := by
  rw [VisaCVN22_new, VisaCVN22_new]; exact C16.ctor_forms _ k1 k2 k3 a b c d h hc

theorem VisaCVN22_pin_change_forms (card : Card) (a b : StrOrBytes) (c d : Option StrOrBytes) (arqc atc : Bytes)
    (h : C16.SameText a b) (hc : C16.SameTextOpt c d) :
    VisaCVN22.generate_pin_change_command card a arqc atc c = VisaCVN22.generate_pin_change_command card b arqc atc d := by
  rw [VisaCVN22_generate_pin_change_command, VisaCVN22_generate_pin_change_command]
  exact C16.pin_change_forms _ card a b c d arqc atc h hc

/-- **C13**: the three keys stored by `InteracCVN133(…)` are 16-byte odd-parity keys. -/
theorem InteracCVN133_ctor_keys (k1 k2 k3 : Bytes) (pan : StrOrBytes) (psn : Option StrOrBytes) (card : Card)
    (h : InteracCVN133.new k1 k2 k3 pan psn = .ok card) :
    OddParityKey card.ac ∧ OddParityKey card.smi ∧ OddParityKey card.smc := by
  rw [InteracCVN133_new] at h; exact C13.ctor_keys _ k1 k2 k3 pan psn card h

/-- **C08, end to end**: a PIN-change command built by a `InteracCVN133` object is header ‖ ciphertext ‖ 8-byte MAC with
`Lc` = the bytes that follow, and a card holding the same keys verifies the MAC and recovers exactly the new PIN. -/
theorem InteracCVN133_card_accepts_and_recovers (k1 k2 k3 : Bytes) (pan : StrOrBytes) (psn : Option StrOrBytes) (card : Card)
    (pin : PyStr) (arqc atc : Bytes) (hnew : InteracCVN133.new k1 k2 k3 pan psn = .ok card)
    (hq : arqc.length = 8) (ha : atc.length = 2) (hp : C12.ValidPin pin) :
    ∃ hdr ct mac, InteracCVN133.generate_pin_change_command card (.str pin) arqc = .ok (hdr ++ ct ++ mac) ∧
      hdr.length = 5 ∧ mac.length = 8 ∧ (hdr.getD 4 0).toNat = ct.length + mac.length ∧
      C08.cardProcess P_InteracCVN133 card arqc atc (hdr ++ ct ++ mac) none = some pin := by
  rw [InteracCVN133_new] at hnew; rw [InteracCVN133_generate_pin_change_command card _ arqc atc none]
  exact C08.card_accepts_and_recovers_of_new P_InteracCVN133 k1 k2 k3 pan psn card pin none arqc atc (Or.inr ⟨rfl, rfl⟩) hnew hq ha hp (fun _ h => nomatch h)

/-- **C16**: text and byte forms of PAN / PSN / PIN / current PIN give the same `InteracCVN133` object and the same
PIN-change command. -/
theorem InteracCVN133_forms (k1 k2 k3 : Bytes) (a b : StrOrBytes) (c d : Option StrOrBytes) (h : C16.SameText a b)
    (hc : C16.SameText (Cvn.psnOr00 c) (Cvn.psnOr00 d)) : InteracCVN133.new k1 k2 k3 a c = InteracCVN133.new k1 k2 k3 b d := by
  rw [InteracCVN133_new, InteracCVN133_new]; exact C16.ctor_forms _ k1 k2 k3 a b c d h hc

theorem InteracCVN133_pin_change_forms (card : Card) (a b : StrOrBytes) (arqc atc : Bytes)
    (h : C16.SameText a b) :
    InteracCVN133.generate_pin_change_command card a arqc = InteracCVN133.generate_pin_change_command card b arqc := by
  rw [InteracCVN133_generate_pin_change_command card a arqc atc none, InteracCVN133_generate_pin_change_command card b arqc atc none]
  exact C16.pin_change_forms _ card a b none none arqc atc h trivial

/-- **C13**: the three keys stored by `MasterCardCVN16(…)` are 16-byte odd-parity keys. -/
theorem MasterCardCVN16_ctor_keys (k1 k2 k3 : Bytes) (pan : StrOrBytes) (psn : Option StrOrBytes) (card : Card)
    (h : MasterCardCVN16.new k1 k2 k3 pan psn = .ok card) :
    OddParityKey card.ac ∧ OddParityKey card.smi ∧ OddParityKey card.smc := by
  rw [MasterCardCVN16_new] at h; exact C13.ctor_keys _ k1 k2 k3 pan psn card h

/-- **C08, end to end**: a PIN-change command built by a `MasterCardCVN16` object is header ‖ ciphertext ‖ 8-byte MAC with
`Lc` = the bytes that follow, and a card holding the same keys verifies the MAC and recovers exactly the new PIN. -/
theorem MasterCardCVN16_card_accepts_and_recovers (k1 k2 k3 : Bytes) (pan : StrOrBytes) (psn : Option StrOrBytes) (card : Card)
    (pin : PyStr) (arqc atc : Bytes) (hnew : MasterCardCVN16.new k1 k2 k3 pan psn = .ok card)
    (hq : arqc.length = 8) (ha : atc.length = 2) (hp : C12.ValidPin pin) :
    ∃ hdr ct mac, MasterCardCVN16.generate_pin_change_command card (.str pin) arqc atc = .ok (hdr ++ ct ++ mac) ∧
      hdr.length = 5 ∧ mac.length = 8 ∧ (hdr.getD 4 0).toNat = ct.length + mac.length ∧
      C08.cardProcess P_MasterCardCVN16 card arqc atc (hdr ++ ct ++ mac) none = some pin := by
  rw [MasterCardCVN16_new] at hnew; rw [MasterCardCVN16_generate_pin_change_command card _ arqc atc none]
  exact C08.card_accepts_and_recovers_of_new P_MasterCardCVN16 k1 k2 k3 pan psn card pin none arqc atc (Or.inr ⟨rfl, rfl⟩) hnew hq ha hp (fun _ h => nomatch h)

/-- **C16**: text and byte forms of PAN / PSN / PIN / current PIN give the same `MasterCardCVN16` object and the same
PIN-change command. -/
theorem MasterCardCVN16_forms (k1 k2 k3 : Bytes) (a b : StrOrBytes) (c d : Option StrOrBytes) (h : C16.SameText a b)
    (hc : C16.SameText (Cvn.psnOr00 c) (Cvn.psnOr00 d)) : MasterCardCVN16.new k1 k2 k3 a c = MasterCardCVN16.new k1 k2 k3 b d := by
  rw [MasterCardCVN16_new, MasterCardCVN16_new]; exact C16.ctor_forms _ k1 k2 k3 a b c d h hc

theorem MasterCardCVN16_pin_change_forms (card : Card) (a b : StrOrBytes) (arqc atc : Bytes)
    (h : C16.SameText a b) :
    MasterCardCVN16.generate_pin_change_command card a arqc atc = MasterCardCVN16.generate_pin_change_command card b arqc atc := by
  rw [MasterCardCVN16_generate_pin_change_command card a arqc atc none, MasterCardCVN16_generate_pin_change_command card b arqc atc none]
  exact C16.pin_change_forms _ card a b none none arqc atc h trivial

/-- **C13**: the three keys stored by `MasterCardCVN17(…)` are 16-byte odd-parity keys. -/
theorem MasterCardCVN17_ctor_keys (k1 k2 k3 : Bytes) (pan : StrOrBytes) (psn : Option StrOrBytes) (card : Card)
    (h : MasterCardCVN17.new k1 k2 k3 pan psn = .ok card) :
    OddParityKey card.ac ∧ OddParityKey card.smi ∧ OddParityKey card.smc := by
  rw [MasterCardCVN17_new] at h; exact C13.ctor_keys _ k1 k2 k3 pan psn card h

/-- **C08, end to end**: a PIN-change command built by a `MasterCardCVN17` object is header ‖ ciphertext ‖ 8-byte MAC with
`Lc` = the bytes that follow, and a card holding the same keys verifies the MAC and recovers exactly the new PIN. -/
theorem MasterCardCVN17_card_accepts_and_recovers (k1 k2 k3 : Bytes) (pan : StrOrBytes) (psn : Option StrOrBytes) (card : Card)
    (pin : PyStr) (arqc atc : Bytes) (hnew : MasterCardCVN17.new k1 k2 k3 pan psn = .ok card)
    (hq : arqc.length = 8) (ha : atc.length = 2) (hp : C12.ValidPin pin) :
    ∃ hdr ct mac, MasterCardCVN17.generate_pin_change_command card (.str pin) arqc atc = .ok (hdr ++ ct ++ mac) ∧
      hdr.length = 5 ∧ mac.length = 8 ∧ (hdr.getD 4 0).toNat = ct.length + mac.length ∧
      C08.cardProcess P_MasterCardCVN17 card arqc atc (hdr ++ ct ++ mac) none = some pin := by
  rw [MasterCardCVN17_new] at hnew; rw [MasterCardCVN17_generate_pin_change_command card _ arqc atc none]
  exact C08.card_accepts_and_recovers_of_new P_MasterCardCVN17 k1 k2 k3 pan psn card pin none arqc atc (Or.inr ⟨rfl, rfl⟩) hnew hq ha hp (fun _ h => nomatch h)

/-- **C16**: text and byte forms of PAN / PSN / PIN / current PIN give the same `MasterCardCVN17` object and the same
PIN-change command. -/
theorem MasterCardCVN17_forms (k1 k2 k3 : Bytes) (a b : StrOrBytes) (c d : Option StrOrBytes) (h : C16.SameText a b)
    (hc : C16.SameText (Cvn.psnOr00 c) (Cvn.psnOr00 d)) : MasterCardCVN17.new k1 k2 k3 a c = MasterCardCVN17.new k1 k2 k3 b d := by
  rw [MasterCardCVN17_new, MasterCardCVN17_new]; exact C16.ctor_forms _ k1 k2 k3 a b c d h hc

theorem MasterCardCVN17_pin_change_forms (card : Card) (a b : StrOrBytes) (arqc atc : Bytes)
    (h : C16.SameText a b) :
    MasterCardCVN17.generate_pin_change_command card a arqc atc = MasterCardCVN17.generate_pin_change_command card b arqc atc := by
  rw [MasterCardCVN17_generate_pin_change_command card a arqc atc none, MasterCardCVN17_generate_pin_change_command card b arqc atc none]
  exact C16.pin_change_forms _ card a b none none arqc atc h trivial

/-- **C13**: the three keys stored by `MasterCardCVN20(…)` are 16-byte odd-parity keys. -/
theorem MasterCardCVN20_ctor_keys (k1 k2 k3 : Bytes) (pan : StrOrBytes) (psn : Option StrOrBytes) (card : Card)
    (h : MasterCardCVN20.new k1 k2 k3 pan psn = .ok card) :
    OddParityKey card.ac ∧ OddParityKey card.smi ∧ OddParityKey card.smc := by
  rw [MasterCardCVN20_new] at h; exact C13.ctor_keys _ k1 k2 k3 pan psn card h

/-- **C08, end to end**: a PIN-change command built by a `MasterCardCVN20` object is header ‖ ciphertext ‖ 8-byte MAC with
`Lc` = the bytes that follow, and a card holding the same keys verifies the MAC and recovers exactly the new PIN. -/
theorem MasterCardCVN20_card_accepts_and_recovers (k1 k2 k3 : Bytes) (pan : StrOrBytes) (psn : Option StrOrBytes) (card : Card)
    (pin : PyStr) (arqc atc : Bytes) (hnew : MasterCardCVN20.new k1 k2 k3 pan psn = .ok card)
    (hq : arqc.length = 8) (ha : atc.length = 2) (hp : C12.ValidPin pin) :
    ∃ hdr ct mac, MasterCardCVN20.generate_pin_change_command card (.str pin) arqc atc = .ok (hdr ++ ct ++ mac) ∧
      hdr.length = 5 ∧ mac.length = 8 ∧ (hdr.getD 4 0).toNat = ct.length + mac.length ∧
      C08.cardProcess P_MasterCardCVN20 card arqc atc (hdr ++ ct ++ mac) none = some pin := by
  rw [MasterCardCVN20_new] at hnew; rw [MasterCardCVN20_generate_pin_change_command card _ arqc atc none]
  exact C08.card_accepts_and_recovers_of_new P_MasterCardCVN20 k1 k2 k3 pan psn card pin none arqc atc (Or.inr ⟨rfl, rfl⟩) hnew hq ha hp (fun _ h => nomatch h)

/-- **C16**: text and byte forms of PAN / PSN / PIN / current PIN give the same `MasterCardCVN20` object and the same
PIN-change command. -/
theorem MasterCardCVN20_forms (k1 k2 k3 : Bytes) (a b : StrOrBytes) (c d : Option StrOrBytes) (h : C16.SameText a b)
    (hc : C16.SameText (Cvn.psnOr00 c) (Cvn.psnOr00 d)) : MasterCardCVN20.new k1 k2 k3 a c = MasterCardCVN20.new k1 k2 k3 b d := by
  rw [MasterCardCVN20_new, MasterCardCVN20_new]; exact C16.ctor_forms _ k1 k2 k3 a b c d h hc

theorem MasterCardCVN20_pin_change_forms (card : Card) (a b : StrOrBytes) (arqc atc : Bytes)
    (h : C16.SameText a b) :
    MasterCardCVN20.generate_pin_change_command card a arqc atc = MasterCardCVN20.generate_pin_change_command card b arqc atc := by
  rw [MasterCardCVN20_generate_pin_change_command card a arqc atc none, MasterCardCVN20_generate_pin_change_command card b arqc atc none]
  exact C16.pin_change_forms _ card a b none none arqc atc h trivial

/-- **C13**: the three keys stored by `MasterCardCVN21(…)` are 16-byte odd-parity keys. -/
theorem MasterCardCVN21_ctor_keys (k1 k2 k3 : Bytes) (pan : StrOrBytes) (psn : Option StrOrBytes) (card : Card)
    (h : MasterCardCVN21.new k1 k2 k3 pan psn = .ok card) :
    OddParityKey card.ac ∧ OddParityKey card.smi ∧ OddParityKey card.smc := by
  rw [MasterCardCVN21_new] at h; exact C13.ctor_keys _ k1 k2 k3 pan psn card h

/-- **C08, end to end**: a PIN-change command built by a `MasterCardCVN21` object is header ‖ ciphertext ‖ 8-byte MAC with
`Lc` = the bytes that follow, and a card holding the same keys verifies the MAC and recovers exactly the new PIN. -/
theorem MasterCardCVN21_card_accepts_and_recovers (k1 k2 k3 : Bytes) (pan : StrOrBytes) (psn : Option StrOrBytes) (card : Card)
    (pin : PyStr) (arqc atc : Bytes) (hnew : MasterCardCVN21.new k1 k2 k3 pan psn = .ok card)
    (hq : arqc.length = 8) (ha : atc.length = 2) (hp : C12.ValidPin pin) :
    ∃ hdr ct mac, MasterCardCVN21.generate_pin_change_command card (.str pin) arqc atc = .ok (hdr ++ ct ++ mac) ∧
      hdr.length = 5 ∧ mac.length = 8 ∧ (hdr.getD 4 0).toNat = ct.length + mac.length ∧
      C08.cardProcess P_MasterCardCVN21 card arqc atc (hdr ++ ct ++ mac) none = some pin := by
  rw [MasterCardCVN21_new] at hnew; rw [MasterCardCVN21_generate_pin_change_command card _ arqc atc none]
  exact C08.card_accepts_and_recovers_of_new P_MasterCardCVN21 k1 k2 k3 pan psn card pin none arqc atc (Or.inr ⟨rfl, rfl⟩) hnew hq ha hp (fun _ h => nomatch h)

/-- **C16**: text and byte forms of PAN / PSN / PIN / current PIN give the same `MasterCardCVN21` object and the same
PIN-change command. -/
theorem MasterCardCVN21_forms (k1 k2 k3 : Bytes) (a b : StrOrBytes) (c d : Option StrOrBytes) (h : C16.SameText a b)
    (hc : C16.SameText (Cvn.psnOr00 c) (Cvn.psnOr00 d)) : MasterCardCVN21.new k1 k2 k3 a c = MasterCardCVN21.new k1 k2 k3 b d := by
  rw [MasterCardCVN21_new, MasterCardCVN21_new]; exact C16.ctor_forms _ k1 k2 k3 a b c d h hc

theorem MasterCardCVN21_pin_change_forms (card : Card) (a b : StrOrBytes) (arqc atc : Bytes)
    (h : C16.SameText a b) :
    MasterCardCVN21.generate_pin_change_command card a arqc atc = MasterCardCVN21.generate_pin_change_command card b arqc atc := by
  rw [MasterCardCVN21_generate_pin_change_command card a arqc atc none, MasterCardCVN21_generate_pin_change_command card b arqc atc none]
  exact C16.pin_change_forms _ card a b none none arqc atc h trivial

end Pyemv.CvnSource
