import PyemvProofs.Parity
/-! # EMV2000 tree derivation over an abstract map Φ, and the bridge from the code-shaped model

The idea the file rests on: the walk down the tree is a fold over the base-`b` digits of the index
(`walk_eq_foldr`), and `H` digits only see the index modulo `b^H` (`digitsRev_mod`). -/
namespace Pyemv.Tree

def digitsRev (b : Nat) : Nat → Nat → List Nat
  | 0, _ => []
  | H+1, a => (a % b) :: digitsRev b H (a / b)

def ofDigitsRev (b : Nat) : List Nat → Nat
  | [] => 0
  | d :: ds => d + b * ofDigitsRev b ds

theorem digitsRev_mod (b H a : Nat) : digitsRev b H (a % b ^ H) = digitsRev b H a := by
  induction H generalizing a with
  | zero => rfl
  | succ H ih => rw [digitsRev, digitsRev, mod_mod_pow, div_mod_pow, ih]

theorem ofDigitsRev_digitsRev (b H a : Nat) : ofDigitsRev b (digitsRev b H a) = a % b ^ H := by
  induction H generalizing a with
  | zero => rw [Nat.pow_zero, Nat.mod_one]; rfl
  | succ H ih => rw [digitsRev, ofDigitsRev, ih, Nat.pow_succ, Nat.mul_comm (b ^ H) b, Nat.mod_mul]

/-- distinct ATCs below `b^H` follow distinct digit paths: the tree has a leaf of its own for each -/
theorem path_injective (b H a₁ a₂ : Nat) (hb : 0 < b) (h1 : a₁ < b ^ H) (h2 : a₂ < b ^ H)
    (hd : digitsRev b H a₁ = digitsRev b H a₂) : a₁ = a₂ := by
  have := congrArg (ofDigitsRev b) hd
  rwa [ofDigitsRev_digitsRev, ofDigitsRev_digitsRev, Nat.mod_eq_of_lt h1, Nat.mod_eq_of_lt h2] at this

/-- acceptance ⇔ every ATC has its own path -/
theorem gate_iff_injective (b H : Nat) (hb : 0 < b) :
    b ^ H > 65535 ↔ ∀ a₁ a₂, a₁ ≤ 65535 → a₂ ≤ 65535 → digitsRev b H a₁ = digitsRev b H a₂ → a₁ = a₂ := by
  constructor
  · intro hg a₁ a₂ h1 h2 hd
    exact path_injective b H a₁ a₂ hb (by omega) (by omega) hd
  · intro hinj
    apply Nat.lt_of_not_le
    intro hle
    have hd : digitsRev b H 0 = digitsRev b H (b ^ H) := by rw [← digitsRev_mod b H (b ^ H), Nat.mod_self]
    have := hinj 0 (b ^ H) (by omega) hle hd
    have := Nat.pow_pos (n := H) hb
    omega

section
variable {K : Type} (Φ : K → K → Nat → K) (b : Nat) (mk iv : K)

/-- `derive` of kd.py: only `j mod b` enters the block computation. -/
def derive (x y : K) (j : Nat) : K := Φ x y (j % b)

/-- Impl: `walk(j, h)` of kd.py returning (parent, grandparent). -/
def walk : Nat → Nat → K × K
  | _, 0 => (mk, iv)
  | j, h+1 => let pg := walk (j / b) h; (derive Φ b pg.1 pg.2 j, pg.1)

/-- Spec: EMV 4.1 Book 2 A1.3.1, intermediate key at level `i`, index `j`. -/
def IK : Nat → Nat → K
  | 0, _ => mk
  | i+1, j => derive Φ b (IK i (j / b)) (match i with | 0 => iv | i'+1 => IK i' (j / b / b)) j

/-- grandparent of the node at level `i+1`, index `j` -/
def GP (i j : Nat) : K := match i with | 0 => iv | i'+1 => IK Φ b mk iv i' (j / b / b)

theorem walk_eq (h j : Nat) :
    walk Φ b mk iv j h = (IK Φ b mk iv h j, match h with | 0 => iv | h'+1 => IK Φ b mk iv h' (j / b)) := by
  induction h generalizing j with
  | zero => rfl
  | succ h ih =>
    simp only [walk, ih]
    cases h <;> rfl

theorem walk_eq_foldr (h j : Nat) :
    walk Φ b mk iv j h = (digitsRev b h j).foldr (fun d pg => (Φ pg.1 pg.2 d, pg.1)) (mk, iv) := by
  induction h generalizing j with
  | zero => rfl
  | succ h ih => rw [walk, ih, digitsRev]; rfl

theorem walk_mod (h j : Nat) : walk Φ b mk iv (j % b ^ h) h = walk Φ b mk iv j h := by
  rw [walk_eq_foldr, walk_eq_foldr, digitsRev_mod]

/-- the key at level `i` depends on the index only modulo `b^i` -/
theorem IK_mod (hb : 0 < b) : ∀ i j, IK Φ b mk iv i j = IK Φ b mk iv i (j % b ^ i) ∧
    IK Φ b mk iv (i+1) j = IK Φ b mk iv (i+1) (j % b ^ (i+1)) := by
  have key : ∀ i j, IK Φ b mk iv i j = IK Φ b mk iv i (j % b ^ i) := fun i j => by
    have := congrArg Prod.fst (walk_mod Φ b mk iv i j)
    rwa [walk_eq, walk_eq, eq_comm] at this
  exact fun i j => ⟨key i j, key (i+1) j⟩

variable (xor : K → K → K)

/-- session key before parity adjustment, as the spec writes it (H ≥ 1 levels) -/
def skSpec (H atc : Nat) : K := xor (IK Φ b mk iv (H+1) atc) (GP Φ b mk iv H atc)

/-- session key as the code computes it with `height = H+1` -/
def skImpl (H atc : Nat) : K :=
  let pg := walk Φ b mk iv (atc / b) H
  xor (derive Φ b pg.1 pg.2 atc) pg.2

theorem skImpl_eq_skSpec (H atc : Nat) : skImpl Φ b mk iv xor H atc = skSpec Φ b mk iv xor H atc := by
  simp only [skImpl, skSpec, walk_eq]
  cases H <;> rfl

/-- the session key depends on the ATC only through its `H+1` low-order base-`b` digits -/
theorem skSpec_mod (H atc : Nat) : skSpec Φ b mk iv xor H (atc % b ^ (H+1)) = skSpec Φ b mk iv xor H atc := by
  simp only [← skImpl_eq_skSpec, skImpl, derive, div_mod_pow, mod_mod_pow, walk_mod]

/-- **Collision theorem**: if the tree has no more than 65535 leaves (`b^height ≤ 65535`), ATC 0 and
ATC `b^height` are both valid ATCs and get the same session key under every master key, IV and Φ. -/
theorem collision_of_small_tree (hb : 0 < b) (H : Nat) (hsmall : b ^ (H+1) ≤ 65535) :
    (0 : Nat) ≠ b ^ (H+1) ∧ b ^ (H+1) ≤ 65535 ∧
      skSpec Φ b mk iv xor H 0 = skSpec Φ b mk iv xor H (b ^ (H+1)) := by
  refine ⟨Nat.ne_of_lt (Nat.pow_pos hb), hsmall, ?_⟩
  rw [← skSpec_mod Φ b mk iv xor H (b ^ (H+1)), Nat.mod_self]
end

end Pyemv.Tree

namespace Pyemv
open Spec

/-- the map Φ(X, Y, j) of EMV 4.1 A1.3.1 on byte strings: two TDES blocks under `X` over the halves of
`Y` XOR `j`, the right half also XOR `F0` in its last byte (`j` already reduced modulo `b`) -/
def phi (x y : Bytes) (j : Nat) : Bytes :=
  tdesE x (xorB (y.take 8) (toBE 8 j)) ++ tdesE x (xorB (xorB (y.drop 8) (toBE 8 j)) (zeros 7 ++ [0xF0]))

theorem phi_length (x y : Bytes) (j : Nat) : (phi x y j).length = 16 := by
  simp [phi]

theorem treeDerive_eq (b : Nat) (x y : Bytes) (j : Nat) (hb : 0 < b) (hx : x.length = 16) (hy : y.length = 16)
    (hj : j % b < 256 ^ 8) : treeDerive b x y j = .ok (phi x y (j % b)) := by
  -- every `xor` has two 8-byte operands and every ECB call one block: the side conditions of the four lemmas are
  -- lengths, which `simp` settles from `hx`, `hy` and the length lemmas
  simp [treeDerive, toBytesBE, phi, xor_eq_xorB, encryptTdesEcb_16, ecbUpdate_one, hx, hy, hj, Nat.ne_of_gt hb, ok_bind,
    pure_eq_ok]

theorem walk_length (b : Nat) (mk iv : Bytes) (hmk : mk.length = 16) (hiv : iv.length = 16) (j h : Nat) :
    (Tree.walk phi b mk iv j h).1.length = 16 ∧ (Tree.walk phi b mk iv j h).2.length = 16 := by
  induction h generalizing j with
  | zero => exact ⟨hmk, hiv⟩
  | succ h ih => exact ⟨phi_length _ _ _, (ih (j / b)).1⟩

/-- the recursive walk of kd.py computes the abstract walk over Φ -/
theorem treeWalk_eq (b : Nat) (mk iv : Bytes) (hb : 0 < b) (hmk : mk.length = 16) (hiv : iv.length = 16) (h j : Nat)
    (hj : j < 256 ^ 8) : treeWalk b mk iv j h = .ok (Tree.walk phi b mk iv j h) := by
  induction h generalizing j with
  | zero => rfl
  | succ h ih =>
    obtain ⟨l1, l2⟩ := walk_length b mk iv hmk hiv (j / b) h
    simp only [treeWalk, if_neg (Nat.ne_of_gt hb), ih (j / b) (Nat.lt_of_le_of_lt (Nat.div_le_self _ _) hj), ok_bind,
      treeDerive_eq b _ _ j hb l1 l2 (Nat.lt_of_le_of_lt (Nat.mod_le _ _) hj)]
    rfl

end Pyemv
