import PyemvGen.TlvRefinesCommon
import PyemvProofs.TlvEncode
/-! encoder half: `TlvGen.encode = Tlv.encode` -/
namespace Pyemv.TlvRefines
open Pyemv.Tlv Pyemv.TlvGen

theorem ewhile1_scan (tag : Bytes) : ∀ (f n : Nat), 1 ≤ f → tag.length + 1 ≤ n + f →
    _encode_while1 tag f n ≠ .fuel ∧ toScan (_encode_while1 tag f n) = scanCont f tag 0 n := by
  intro f
  induction f with
  | zero => intro n h; omega
  | succ f ih =>
    intro n _ hlen
    unfold _encode_while1 scanCont
    simp only [Nat.zero_add]
    cases hb : tag[n]? with
    | none => exact ⟨nofun, rfl⟩
    | some b =>
      have hlt : n < tag.length := (List.getElem?_eq_some_iff.mp hb).1
      by_cases hc : (b &&& 128 != 0) = true
      · have := ih (n + 1) (by omega) (by omega)
        simp only [hc, if_true]
        exact this
      · simp only [hc, if_false, Bool.false_eq_true]
        exact ⟨nofun, rfl⟩

theorem ewhile2_done (value : Bytes) : ∀ (f k : Nat), 1 ≤ f → value.length + 1 ≤ k + f →
    _encode_while2 value f k = .done (lenLoop value.length f k) := by
  intro f
  induction f with
  | zero => intro k h; omega
  | succ f ih =>
    intro k _ hlen
    unfold _encode_while2 lenLoop
    by_cases hc : value.length > 2 ^ (8 * k) - 1
    · have := two_pow_gt k
      simp only [hc, decide_true, if_true]
      exact ih (k + 1) (by omega) (by omega)
    · simp [hc]

/-- the model's two outcomes among the four of the translated encoder (which can also run out of fuel or crash) -/
def embed : Except EErr Bytes → ERes
  | .ok b => .ok b
  | .error e => .err e

/-- the accumulator of the `for` loop in front of a result -/
def ERes.pre (data : Bytes) : ERes → ERes
  | .ok b => .ok (data ++ b)
  | r => r

/-- what the recursive call on a nested mapping must satisfy -/
def CallOk (si : Bool) (v : PyVal) : Prop :=
  ∀ kvs, v = .dict kvs → _encode_call si v = embed (encodeItems si kvs)

theorem len_part (si : Bool) (tagS : PyStr) (acc value : Bytes) :
    (if (decide (value.length > 255) && si) = true then ERes.err ⟨tagS⟩ else
      if (decide (value.length > 127) && !si) = true then
        match _encode_while2 value value.length 1 with
        | .fuel => ERes.fuel
        | .indexErr _ => ERes.crash
        | .done k => ERes.ok (acc ++ toBE 1 (k ||| 128) ++ (toBE k value.length ++ value))
      else ERes.ok (acc ++ (toBE 1 value.length ++ value)))
    = match lenField si value.length with
      | none => ERes.err ⟨tagS⟩
      | some l => ERes.ok (acc ++ l ++ value) := by
  unfold lenField
  by_cases h255 : (decide (value.length > 255) && si) = true
  · simp [h255]
  · simp only [h255, Bool.false_eq_true, if_false]
    by_cases h127 : (decide (value.length > 127) && !si) = true
    · have hlen : value.length > 127 := by
        simp only [Bool.and_eq_true, decide_eq_true_eq] at h127; exact h127.1
      rw [ewhile2_done value value.length 1 (by omega) (by omega)]
      simp only [h127, if_true, toBE_one, List.append_assoc, List.cons_append, List.nil_append]
    · simp only [h127, Bool.false_eq_true, if_false, List.append_assoc]

theorem len_fin (si : Bool) (tagS : PyStr) (data tag value : Bytes) :
    (match lenField si value.length with
      | none => ERes.err ⟨tagS⟩
      | some l => ERes.ok (data ++ tag ++ l ++ value)) =
    ERes.pre data (embed (match lenField si value.length with
      | none => Except.error ⟨tagS⟩
      | some l => Except.ok (tag ++ l ++ value))) := by
  cases lenField si value.length <;> simp [embed, ERes.pre, List.append_assoc]

/-- `encodeItem` once the tag is parsed and its syntax check has returned the expected length `n` -/
def encodeRest (si : Bool) (tagS : PyStr) (v : PyVal) (tag : Bytes) (n : Nat) : Except EErr Bytes :=
  if tag.length != n then .error ⟨tagS⟩ else
  match encodeValue si tagS (tag.headD 0 &&& 0x20 != 0) v with
  | .error e => .error e
  | .ok value =>
    match lenField si value.length with
    | none => .error ⟨tagS⟩
    | some l => .ok (tag ++ l ++ value)

theorem encodeItem_rest (si : Bool) (tagS : PyStr) (v : PyVal) : encodeItem si (tagS, v) =
    match bytesFromHex tagS with
    | .error _ => .error ⟨tagS⟩
    | .ok tag =>
      match tagNameLen tag with
      | none => .error ⟨tagS⟩
      | some n => encodeRest si tagS v tag n := rfl

-- unhygienic: it names `b0 rest tagS data si v` of the goal of `body_eq`, its one caller
set_option hygiene false in
/-- the value dispatch and the length field, once the tag is known to be well-formed -/
macro "value_tac" hv:ident hx:ident htn:ident : tactic => `(tactic| (
  split
  · simp [embed, ERes.pre]
  · rename_i hn
    have hn' := hn
    simp only [bne_iff_ne, ne_eq, Decidable.not_not] at hn'
    have hlen : tagNameLen (b0 :: rest) = some (b0 :: rest).length := by
      rw [$htn:ident, hn']
    have hcall := $hv:ident _ $hx:ident hlen
    simp only [List.headD_cons]
    by_cases hc : (b0 &&& 32 != 0) = true
    · simp only [hc, if_true]
      cases v with
      | dict kvs =>
        have := hcall hc kvs rfl
        simp only [PyVal.isMapping, Bool.not_true, Bool.false_eq_true, if_false, this, encodeValue, if_true]
        cases encodeItems si kvs with
        | error e => simp [embed, ERes.pre]
        | ok value =>
          simp only [embed]
          exact (len_part si tagS _ value).trans (len_fin si tagS data _ value)
      | str s => simp [PyVal.isMapping, encodeValue, embed, ERes.pre]
      | bytes b => simp [PyVal.isMapping, encodeValue, embed, ERes.pre]
      | other => simp [PyVal.isMapping, encodeValue, embed, ERes.pre]
    · simp only [hc, Bool.false_eq_true, if_false]
      cases v with
      | dict kvs => simp [PyVal.isStr, PyVal.isBytes, encodeValue, embed, ERes.pre]
      | str s =>
        simp only [PyVal.isStr, if_true, PyVal.asStr?, encodeValue, Bool.false_eq_true, if_false]
        cases bytesFromHex s with
        | error e => simp [embed, ERes.pre]
        | ok value =>
          simp only []
          exact (len_part si tagS _ value).trans (len_fin si tagS data _ value)
      | bytes value =>
        simp only [PyVal.isStr, PyVal.isBytes, Bool.false_eq_true, if_false, Bool.not_true, PyVal.asBytes?, encodeValue]
        exact (len_part si tagS _ value).trans (len_fin si tagS data _ value)
      | other => simp [PyVal.isStr, PyVal.isBytes, encodeValue, embed, ERes.pre]))

theorem body_eq (si : Bool) (tagS : PyStr) (v : PyVal) (data : Bytes) (hv : CallOk si v) :
    _encode_body si data (tagS, v) = ERes.pre data (embed (encodeItem si (tagS, v))) := by
  unfold _encode_body
  rw [encodeItem_rest]
  extract_lets -underBinder -merge
  rename_i k1
  cases hx : bytesFromHex tagS with
  | error e => rfl
  | ok tag =>
    cases tag with
    | nil => rfl
    | cons b0 rest =>
      simp -zeta only [k1]
      extract_lets -underBinder -merge
      -- the last `let` is the join point after the tag's syntax check, called with the expected tag length
      rename_i k
      have hk : ∀ n, tagNameLen (b0 :: rest) = some n →
          k n = ERes.pre data (embed (encodeRest si tagS v (b0 :: rest) n)) := by
        intro n htn
        have hv' : ∀ tag, bytesFromHex tagS = .ok tag → tagNameLen tag = some tag.length →
            (tag.headD 0 &&& 32 != 0) = true → CallOk si v := fun _ _ _ _ => hv
        simp -zeta +zetaDelta only [List.getElem?_cons_zero]
        -- `value_tac` is run with the length part (`k3`) still folded: unfolded, it stands three times in the goal
        extract_lets -underBinder -merge
        unfold encodeRest
        value_tac hv' hx htn
      clear_value k
      simp +zetaDelta only [List.getElem?_cons_zero, tagNameLen]
      by_cases h31 : (b0 &&& 31 == 31) = true
      · obtain ⟨hne, hs⟩ := ewhile1_scan (b0 :: rest) ((b0 :: rest).length + 1) 1 (by omega) (by simp)
        have hfuel : rest.length + 2 = (b0 :: rest).length + 1 := rfl
        simp only [h31, if_true, hfuel, ← hs]
        generalize _encode_while1 (b0 :: rest) ((b0 :: rest).length + 1) 1 = w at hne hs ⊢
        cases w with
        | fuel => exact absurd rfl hne
        | indexErr m => rfl
        | done m => exact hk (m + 1) (by simp only [tagNameLen, h31, if_true, hfuel, ← hs, toScan])
      · have htn : tagNameLen (b0 :: rest) = some 1 := by simp only [tagNameLen, h31, Bool.false_eq_true, if_false]
        simp only [h31, Bool.false_eq_true, if_false, hk 1 htn]

theorem pre_nil (r : ERes) : ERes.pre [] r = r := by cases r <;> simp [ERes.pre]

theorem for_cons (si : Bool) (data : Bytes) (kv : PyStr × PyVal) (rest : List (PyStr × PyVal))
    (h3 : ∀ data, _encode_body si data kv = ERes.pre data (embed (encodeItem si kv)))
    (h2 : ∀ data, _encode_for si data rest = ERes.pre data (embed (encodeItems si rest))) :
    _encode_for si data (kv :: rest) = ERes.pre data (embed (encodeItems si (kv :: rest))) := by
  unfold _encode_for encodeItems
  rw [h3]
  cases encodeItem si kv with
  | error e => rfl
  | ok b =>
    simp only [embed, ERes.pre, h2]
    cases encodeItems si rest with
    | error e => rfl
    | ok r => simp only [List.append_assoc]

/-- the `for` loop of `_encode`, started with any accumulator, appends what the model's `encodeItems` returns;
by `tree_induct`, so that a nested mapping comes with its hypothesis whatever checks guard the recursive call -/
theorem encode_for_eq (si : Bool) : ∀ (kvs : List (PyStr × PyVal)) (data : Bytes),
    _encode_for si data kvs = ERes.pre data (embed (encodeItems si kvs)) := by
  refine tree_induct (fun data => ?_) fun k v rest ihv ihr data => ?_
  · simp [_encode_for, encodeItems, embed, ERes.pre]
  · refine for_cons si data (k, v) rest (fun data => body_eq si k v data fun kvs h => ?_) ihr
    rw [h, _encode_call, ihv kvs h, pre_nil]

/-- **`encode` translated from the source = the model's `encode`** for every tree and option -/
theorem tlv_encode (si : Option Bool) (t : List (PyStr × PyVal)) :
    TlvGen.encode si t = embed (Tlv.encode (si.getD false) t) := by
  unfold TlvGen.encode TlvGen._encode Tlv.encode
  cases si <;> simp only [Option.getD] <;> rw [encode_for_eq, pre_nil]

end Pyemv.TlvRefines
