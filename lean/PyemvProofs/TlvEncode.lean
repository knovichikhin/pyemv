import PyemvProofs.TlvLen
/-! # The encoder: what it produces on success, what it names on refusal -/
namespace Pyemv.Tlv
open Pyemv.TlvSpec Pyemv.RoundTrip Pyemv.Refine

/-- the tag bytes a key denotes when its syntax is valid (tlv.py 323-346): hex digits (either case,
whitespace between pairs), exactly one complete tag -/
def tagOfName (k : PyStr) : Option Bytes :=
  match bytesFromHex k with
  | .ok tag => match tagNameLen tag with
    | some n => if tag.length == n then some tag else none
    | none => none
  | .error _ => none

theorem tagNameLen_eq_tagLen (t : Bytes) : tagNameLen t = tagLen t := by
  cases t with
  | nil => rfl
  | cons b0 rest =>
    simp only [tagNameLen, tagLen]
    split
    · have := scanCont_eq_scanList (b0 :: rest) 0 (rest.length + 2) 1 (by simp)
      rw [this]
      simp only [Nat.zero_add, List.drop_succ_cons, List.drop_zero]
      cases scanList rest 1 with
      | mk a b => cases a <;> rfl
    · rfl

/-- what `tagOfName` computes: the key is the hex rendering of a byte string that is exactly one tag -/
theorem tagOfName_eq_some {k : PyStr} {t : Bytes} : tagOfName k = some t ↔ bytesFromHex k = .ok t ∧ ValidTag t := by
  unfold tagOfName ValidTag
  cases bytesFromHex k with
  | error e => exact ⟨nofun, fun h => nomatch h.1⟩
  | ok tag =>
    simp only [Except.ok.injEq]
    constructor
    · intro h
      split at h
      next n hn =>
        split at h
        next hl => cases h; exact ⟨rfl, by rw [← tagNameLen_eq_tagLen, hn, eq_of_beq hl]⟩
        next => cases h
      next => cases h
    · rintro ⟨rfl, hv⟩
      simp only [tagNameLen_eq_tagLen, hv, beq_self_eq_true, if_true]

/-- `_encode` on a non-empty tree, in terms of the tag the name denotes: the three refusals of the name are
`tagOfName k = none` -/
theorem encodeItems_cons (si : Bool) (k : PyStr) (v : PyVal) (rest : List (PyStr × PyVal)) :
    encodeItems si ((k, v) :: rest) =
      match tagOfName k with
      | none => .error ⟨k⟩
      | some t =>
        match encodeValue si k (t.headD 0 &&& 0x20 != 0) v with
        | .error e => .error e
        | .ok value =>
          match lenField si value.length with
          | none => .error ⟨k⟩
          | some l =>
            match encodeItems si rest with
            | .error e => .error e
            | .ok r => .ok (t ++ l ++ value ++ r) := by
  rw [encodeItems]
  unfold encodeItem tagOfName
  cases bytesFromHex k with
  | error a => rfl
  | ok tag =>
    dsimp only
    cases tagNameLen tag with
    | none => rfl
    | some n =>
      by_cases hn : tag.length = n
      all_goals simp only [bne_iff_ne, ne_eq, beq_iff_eq, hn, not_true_eq_false, not_false_eq_true, if_true, if_false]
      cases encodeValue si k (tag.headD 0 &&& 0x20 != 0) v with
      | error e => rfl
      | ok value => dsimp only; cases lenField si value.length <;> rfl

/-- the values a tag with flag byte `x` accepts -/
theorem encodeValue_ok {si : Bool} {k : PyStr} {x : UInt8} {v : PyVal} {value : Bytes} :
    encodeValue si k (x != 0) v = .ok value ↔
      (x ≠ 0 ∧ ∃ kvs, v = .dict kvs ∧ encodeItems si kvs = .ok value) ∨
      (x = 0 ∧ (v = .bytes value ∨ ∃ s, v = .str s ∧ bytesFromHex s = .ok value)) := by
  by_cases hx : x = 0 <;> cases v <;> simp [encodeValue, hx]
  -- flag × kind of value is a table of eight; what is left is a string under a primitive tag
  split <;> simp [*]

theorem encodeValue_bytes {si : Bool} {k : PyStr} {x : UInt8} (v : Bytes) (hx : x = 0) :
    encodeValue si k (x != 0) (.bytes v) = .ok v := encodeValue_ok.mpr (.inr ⟨hx, .inl rfl⟩)

theorem encodeValue_str {si : Bool} {k : PyStr} {x : UInt8} {s : PyStr} {v : Bytes} (hx : x = 0)
    (hs : bytesFromHex s = .ok v) : encodeValue si k (x != 0) (.str s) = .ok v :=
  encodeValue_ok.mpr (.inr ⟨hx, .inr ⟨s, rfl, hs⟩⟩)

theorem encodeValue_dict {si : Bool} {k : PyStr} {x : UInt8} {kvs : List (PyStr × PyVal)} {b : Bytes} (hx : x ≠ 0)
    (hk : encodeItems si kvs = .ok b) : encodeValue si k (x != 0) (.dict kvs) = .ok b :=
  encodeValue_ok.mpr (.inl ⟨hx, kvs, rfl, hk⟩)

theorem encodeItems_cons_ok {si : Bool} {k : PyStr} {v : PyVal} {rest : List (PyStr × PyVal)} {b : Bytes} :
    encodeItems si ((k, v) :: rest) = .ok b ↔
      ∃ t value l r, tagOfName k = some t ∧ encodeValue si k (t.headD 0 &&& 0x20 != 0) v = .ok value ∧
        lenField si value.length = some l ∧ encodeItems si rest = .ok r ∧ b = t ++ l ++ value ++ r := by
  rw [encodeItems_cons]
  constructor
  · intro h
    split at h
    next => cases h
    next t ht =>
      split at h
      next => cases h
      next value hv =>
        split at h
        next => cases h
        next l hl =>
          split at h
          next => cases h
          next r hr => cases h; exact ⟨t, value, l, r, ht, hv, hl, hr, rfl⟩
  · rintro ⟨t, value, l, r, ht, hv, hl, hr, rfl⟩
    simp only [ht, hv, hl, hr]

/-- induction over a tree: the value of the first pair, when it is a mapping, and the pairs after it -/
theorem tree_induct {P : List (PyStr × PyVal) → Prop} (nil : P [])
    (cons : ∀ k v rest, (∀ kvs, v = .dict kvs → P kvs) → P rest → P ((k, v) :: rest)) : ∀ t, P t :=
  -- `PyVal` is nested through `List` and `×`: its recursor takes a motive for values, for trees and for pairs
  PyVal.rec_1 (motive_1 := fun v => ∀ kvs, v = .dict kvs → P kvs) (motive_2 := P)
    (motive_3 := fun kv => ∀ kvs, kv.2 = .dict kvs → P kvs)
    (fun _ _ => nofun) (fun _ _ => nofun) (fun _ ih _ h => by cases h; exact ih) (fun _ => nofun)
    nil (fun kv rest ihv ihr => cons kv.1 kv.2 rest ihv ihr) (fun _ _ ih => ih)

/-- well-formed trees: every key is the hex name of exactly one valid tag; a constructed tag holds a
mapping that is well-formed itself, a primitive tag holds bytes or a hex string; in simple mode every
encoded value has at most 255 bytes -/
inductive WFTree (si : Bool) : List (PyStr × PyVal) → Prop
  | nil : WFTree si []
  | bytes {k t v rest} : tagOfName k = some t → t.headD 0 &&& 0x20 = 0 → (si = true → v.length ≤ 255) →
      WFTree si rest → WFTree si ((k, .bytes v) :: rest)
  | str {k t s v rest} : tagOfName k = some t → t.headD 0 &&& 0x20 = 0 → bytesFromHex s = .ok v →
      (si = true → v.length ≤ 255) → WFTree si rest → WFTree si ((k, .str s) :: rest)
  | dict {k t kvs rest} : tagOfName k = some t → t.headD 0 &&& 0x20 ≠ 0 → WFTree si kvs →
      (si = true → ∀ b, encodeItems si kvs = .ok b → b.length ≤ 255) → WFTree si rest →
      WFTree si ((k, .dict kvs) :: rest)

theorem wf_accepts (si : Bool) (kvs : List (PyStr × PyVal)) (h : WFTree si kvs) : ∃ b, encodeItems si kvs = .ok b := by
  induction h with
  | nil => exact ⟨[], rfl⟩
  | @bytes k t v rest ht hp hs _ ih =>
    obtain ⟨r, hr⟩ := ih
    obtain ⟨l, hlf⟩ := lenField_some si v.length hs
    exact ⟨_, encodeItems_cons_ok.mpr ⟨t, v, l, r, ht, encodeValue_bytes v hp, hlf, hr, rfl⟩⟩
  | @str k t s v rest ht hp hx hs _ ih =>
    obtain ⟨r, hr⟩ := ih
    obtain ⟨l, hlf⟩ := lenField_some si v.length hs
    exact ⟨_, encodeItems_cons_ok.mpr ⟨t, v, l, r, ht, encodeValue_str hp hx, hlf, hr, rfl⟩⟩
  | @dict k t kvs rest ht hp _ hs _ ihk ihr =>
    obtain ⟨r, hr⟩ := ihr
    obtain ⟨kb, hk⟩ := ihk
    obtain ⟨l, hlf⟩ := lenField_some si kb.length (fun a => hs a kb hk)
    exact ⟨_, encodeItems_cons_ok.mpr ⟨t, kb, l, r, ht, encodeValue_dict hp hk, hlf, hr, rfl⟩⟩

theorem ok_wf (si : Bool) : ∀ (kvs : List (PyStr × PyVal)) (b : Bytes), encodeItems si kvs = .ok b → WFTree si kvs := by
  refine tree_induct (fun _ _ => WFTree.nil) fun k v rest ihv ihr b hb => ?_
  obtain ⟨t, value, l, r, ht, hv, hl, hr, -⟩ := encodeItems_cons_ok.mp hb
  have hsz := le_255_of_lenField hl
  rcases encodeValue_ok.mp hv with ⟨hc, kvs, rfl, hk⟩ | ⟨hc, rfl | ⟨s, rfl, hs⟩⟩
  · exact .dict ht hc (ihv kvs rfl _ hk) (fun a b' hb' => by rw [hk] at hb'; cases hb'; exact hsz a) (ihr _ hr)
  · exact .bytes ht hc hsz (ihr _ hr)
  · exact .str ht hc hs hsz (ihr _ hr)

/-- the concrete syntax tree the encoder writes for a tree: tag bytes parsed from the names, shortest
definite lengths, values as bytes, in mapping order -/
inductive Mirror (si : Bool) : List (PyStr × PyVal) → List Item → Prop
  | nil : Mirror si [] []
  | bytes {k t v rest more} : tagOfName k = some t → t.headD 0 &&& 0x20 = 0 → Mirror si rest more →
      Mirror si ((k, .bytes v) :: rest) (.prim t (berLen si v.length) v :: more)
  | str {k t s v rest more} : tagOfName k = some t → t.headD 0 &&& 0x20 = 0 → bytesFromHex s = .ok v →
      Mirror si rest more → Mirror si ((k, .str s) :: rest) (.prim t (berLen si v.length) v :: more)
  | dict {k t kvs kids rest more} : tagOfName k = some t → t.headD 0 &&& 0x20 ≠ 0 → Mirror si kvs kids →
      Mirror si rest more →
      Mirror si ((k, .dict kvs) :: rest) (.cons t (berLen si (printItems kids).length) kids :: more)

theorem printItems_append (a b : List Item) : printItems (a ++ b) = printItems a ++ printItems b := by
  induction a with
  | nil => simp [printItems]
  | cons x xs ih => cases x <;> simp [printItems, ih]

/-- success of the encoder: the output is the serialisation of a well-formed CST that mirrors the tree -/
theorem encodeItems_ok (si : Bool) : ∀ (kvs : List (PyStr × PyVal)) (b : Bytes),
    encodeItems si kvs = .ok b → (si = false → b.length < 256 ^ 127) →
      ∃ items, b = printItems items ∧ Mirror si kvs items ∧ ∀ i ∈ items, WF si i := by
  refine tree_induct (fun b hb _ => ?_) fun k v rest ihv ihr b hb hlen => ?_
  · cases hb; exact ⟨[], by simp [printItems], .nil, by simp⟩
  obtain ⟨t, value, l, r, ht, hv, hl, hr, rfl⟩ := encodeItems_cons_ok.mp hb
  simp only [List.length_append] at hlen
  have hlen' : si = false → value.length < 256 ^ 127 ∧ r.length < 256 ^ 127 := fun a => by have := hlen a; omega
  obtain ⟨more, rfl, mm, wm⟩ := ihr r hr fun a => (hlen' a).2
  -- the length written is the shortest, and the decoder reads it back
  have hok : LenOk si value.length := ⟨le_255_of_lenField hl, fun a => (hlen' a).1⟩
  cases (lenField_eq hok).symm.trans hl
  have hvl := berLen_valid hok
  have hvt := (tagOfName_eq_some.mp ht).2
  rcases encodeValue_ok.mp hv with ⟨hc, kvs, rfl, hk⟩ | ⟨hc, rfl | ⟨s, rfl, hs⟩⟩
  · obtain ⟨kids, rfl, mk, wk⟩ := ihv kvs rfl value hk hok.2
    exact ⟨_ :: more, by simp [printItems], .dict ht hc mk mm, List.forall_mem_cons.mpr ⟨.cons hvt hc wk hvl, wm⟩⟩
  · exact ⟨_ :: more, by simp [printItems], .bytes ht hc mm, List.forall_mem_cons.mpr ⟨.prim hvt hc hvl, wm⟩⟩
  · exact ⟨_ :: more, by simp [printItems], .str ht hc hs mm, List.forall_mem_cons.mpr ⟨.prim hvt hc hvl, wm⟩⟩

/-- conversely, a tree with a well-formed mirror is accepted and encodes to the mirror's serialisation -/
theorem mirror_encodes {si : Bool} {t : List (PyStr × PyVal)} {items : List Item} (hm : Mirror si t items) :
    (∀ i ∈ items, WF si i) → encodeItems si t = .ok (printItems items) := by
  induction hm with
  | nil => intro _; simp [encodeItems, printItems]
  | @bytes k t v rest more ht hp _ ih =>
    intro hwf
    obtain ⟨hw, hwm⟩ := List.forall_mem_cons.mp hwf
    cases hw with
    | prim _ _ hv =>
      exact encodeItems_cons_ok.mpr ⟨t, v, _, _, ht, encodeValue_bytes v hp,
        lenField_eq (lenOk_of_validLen hv), ih hwm, by simp [printItems]⟩
  | @str k t s v rest more ht hp hs _ ih =>
    intro hwf
    obtain ⟨hw, hwm⟩ := List.forall_mem_cons.mp hwf
    cases hw with
    | prim _ _ hv =>
      exact encodeItems_cons_ok.mpr ⟨t, v, _, _, ht, encodeValue_str hp hs,
        lenField_eq (lenOk_of_validLen hv), ih hwm, by simp [printItems]⟩
  | @dict k t kvs kids rest more ht hp _ _ ihk ihr =>
    intro hwf
    obtain ⟨hw, hwm⟩ := List.forall_mem_cons.mp hwf
    cases hw with
    | cons _ _ hkw hv =>
      exact encodeItems_cons_ok.mpr ⟨t, _, _, _, ht, encodeValue_dict hp (ihk hkw),
        lenField_eq (lenOk_of_validLen hv), ihr hwm, by simp [printItems]⟩

theorem mirror_unique (si : Bool) : ∀ {t : List (PyStr × PyVal)} {a b : List Item}, Mirror si t a → Mirror si t b → a = b := by
  intro t a b ha
  induction ha generalizing b with
  | nil => intro hb; cases hb; rfl
  | bytes ht _ _ ih =>
    intro hb
    cases hb with
    | bytes ht' _ hm' => rw [ht] at ht'; cases ht'; rw [ih hm']
  | str ht _ hs _ ih =>
    intro hb
    cases hb with
    | str ht' _ hs' hm' => rw [ht] at ht'; cases ht'; rw [hs] at hs'; cases hs'; rw [ih hm']
  | dict ht _ _ _ ihk ihr =>
    intro hb
    cases hb with
    | dict ht' _ hk' hm' => rw [ht] at ht'; cases ht'; rw [ihk hk', ihr hm']

theorem wfTree_of_mirror {si : Bool} {t : List (PyStr × PyVal)} {items : List Item} (hm : Mirror si t items)
    (hwf : ∀ i ∈ items, WF si i) : WFTree si t :=
  ok_wf si t _ (mirror_encodes hm hwf)

/-! ### refusal: the error names the first offending pair

`ItemFault` lists, syntactically, what can be wrong with one `(name, value)` pair whose children (if any) are
fine; `FirstOffender k t` says that the pair named `k` has such a fault, that every pair evaluated before it
(earlier in its mapping, at every enclosing level) is well-formed, and that every enclosing template has a
valid constructed tag name. -/

inductive ItemFault (si : Bool) : PyStr → PyVal → Prop
  /-- the name is not the hex name of exactly one tag -/
  | name {k v} : tagOfName k = none → ItemFault si k v
  /-- a constructed tag holds something that is not a mapping -/
  | consType {k t v} : tagOfName k = some t → t.headD 0 &&& 0x20 ≠ 0 → (∀ kvs, v ≠ .dict kvs) → ItemFault si k v
  /-- a primitive tag holds a mapping or an object of another type -/
  | primType {k t v} : tagOfName k = some t → t.headD 0 &&& 0x20 = 0 → (v = .other ∨ ∃ kvs, v = .dict kvs) → ItemFault si k v
  /-- a primitive tag holds a string that is not a hex string -/
  | primHex {k t s} : tagOfName k = some t → t.headD 0 &&& 0x20 = 0 → (∀ b, bytesFromHex s ≠ .ok b) → ItemFault si k (.str s)
  /-- simple mode: the value (for a template: the encoding of its well-formed content) exceeds 255 bytes -/
  | tooLong {k t v value} : tagOfName k = some t → encodeValue si k (t.headD 0 &&& 0x20 != 0) v = .ok value →
      si = true → 255 < value.length → ItemFault si k v

inductive FirstOffender (si : Bool) : PyStr → List (PyStr × PyVal) → Prop
  | here {k v rest} : ItemFault si k v → FirstOffender si k ((k, v) :: rest)
  | inside {k k' t kvs rest} : tagOfName k' = some t → t.headD 0 &&& 0x20 ≠ 0 → FirstOffender si k kvs →
      FirstOffender si k ((k', .dict kvs) :: rest)
  | later {k kv rest} : WFTree si [kv] → FirstOffender si k rest → FirstOffender si k (kv :: rest)

/-- some key of the tree, at any depth -/
inductive KeyIn : PyStr → List (PyStr × PyVal) → Prop
  | here {k v rest} : KeyIn k ((k, v) :: rest)
  | inside {k k' kvs rest} : KeyIn k kvs → KeyIn k ((k', .dict kvs) :: rest)
  | later {k kv rest} : KeyIn k rest → KeyIn k (kv :: rest)

theorem keyIn_of_offender {si : Bool} {k : PyStr} {t : List (PyStr × PyVal)} (h : FirstOffender si k t) : KeyIn k t := by
  induction h with
  | here _ => exact .here
  | inside _ _ _ ih => exact .inside ih
  | later _ _ ih => exact .later ih

/-- a refused value: a fault of the pair itself, or a refusal inside the mapping it holds -/
theorem encodeValue_err {si : Bool} {k : PyStr} {t : Bytes} {v : PyVal} {e : EErr} (ht : tagOfName k = some t)
    (h : encodeValue si k (t.headD 0 &&& 0x20 != 0) v = .error e) :
    (e.tag = k ∧ ItemFault si k v) ∨
    (t.headD 0 &&& 0x20 ≠ 0 ∧ ∃ kvs, v = .dict kvs ∧ encodeItems si kvs = .error e) := by
  by_cases hx : t.headD 0 &&& 0x20 = 0
  · rw [hx] at h
    cases v with
    | dict kvs => cases h; exact .inl ⟨rfl, .primType ht hx (.inr ⟨kvs, rfl⟩)⟩
    | other => cases h; exact .inl ⟨rfl, .primType ht hx (.inl rfl)⟩
    | bytes b => cases h
    | str s =>
      simp only [encodeValue, bne_self_eq_false, Bool.false_eq_true, if_false] at h
      split at h <;> cases h
      rename_i a ha
      exact .inl ⟨rfl, .primHex ht hx fun b hb => by rw [ha] at hb; cases hb⟩
  · have hc : (t.headD 0 &&& 0x20 != 0) = true := bne_iff_ne.mpr hx
    rw [hc] at h
    cases v with
    | dict kvs => exact .inr ⟨hx, kvs, rfl, h⟩
    | other => cases h; exact .inl ⟨rfl, .consType ht hx nofun⟩
    | bytes b => cases h; exact .inl ⟨rfl, .consType ht hx nofun⟩
    | str s => cases h; exact .inl ⟨rfl, .consType ht hx nofun⟩

/-- **the error names the first offending tag** -/
theorem encodeItems_offender (si : Bool) : ∀ (kvs : List (PyStr × PyVal)) (e : EErr),
    encodeItems si kvs = .error e → FirstOffender si e.tag kvs := by
  refine tree_induct (fun e he => by cases he) fun k v rest ihv ihr e he => ?_
  rw [encodeItems_cons] at he
  split at he
  next ht => cases he; exact .here (.name ht)
  next t ht =>
    split at he
    next e' hv =>
      cases he
      rcases encodeValue_err ht hv with ⟨hk, hf⟩ | ⟨hc, kvs, rfl, hk⟩
      · rw [hk]; exact .here hf
      · exact .inside ht hc (ihv kvs rfl e hk)
    next value hv =>
      split at he
      next hl =>
        cases he
        obtain ⟨hs, hlen⟩ := (lenField_none_iff si value.length).mp hl
        exact .here (.tooLong ht hv hs hlen)
      next l hl =>
        -- this pair is fine: the offender comes later
        have hw := ok_wf si [(k, v)] _ (encodeItems_cons_ok.mpr ⟨t, value, l, [], ht, hv, hl, rfl, rfl⟩)
        split at he
        next e' hr => cases he; exact .later hw (ihr e hr)
        next => cases he

/-- conversely, a tree with a first offender is refused, and the error names that offender -/
theorem offender_refused {si : Bool} {k : PyStr} {t : List (PyStr × PyVal)} (h : FirstOffender si k t) :
    encodeItems si t = .error ⟨k⟩ := by
  induction h with
  | @here v rest hf =>
    rw [encodeItems_cons]
    cases hf with
    | name hn => rw [hn]
    | consType ht hc hnd =>
      have hb := bne_iff_ne.mpr hc
      cases v with
      | dict kvs => exact absurd rfl (hnd kvs)
      | _ => simp only [ht, hb, encodeValue, if_true]
    | primType ht hp hty =>
      have hb := bne_eq_false_iff_eq.mpr hp
      rcases hty with rfl | ⟨kvs, rfl⟩ <;> simp only [ht, hb, encodeValue, Bool.false_eq_true, if_false]
    | primHex ht hp hx =>
      have hb := bne_eq_false_iff_eq.mpr hp
      simp only [ht, hb, encodeValue, Bool.false_eq_true, if_false]
      cases hs : bytesFromHex _ with
      | ok b => exact absurd hs (hx b)
      | error _ => rfl
    | tooLong ht hv hsi hlen => simp only [ht, hv, (lenField_none_iff si _).mpr ⟨hsi, hlen⟩]
  | inside ht hc _ ih => simp only [encodeItems_cons, ht, encodeValue, bne_iff_ne.mpr hc, if_true, ih]
  | @later kv rest hw _ ih =>
    -- the pairs before the offender are written; the refusal is that of the rest
    obtain ⟨k', v'⟩ := kv
    obtain ⟨b, hb⟩ := wf_accepts si _ hw
    obtain ⟨t, value, l, r, ht, hv, hl, -, -⟩ := encodeItems_cons_ok.mp hb
    simp only [encodeItems_cons, ht, hv, hl, ih]

end Pyemv.Tlv
