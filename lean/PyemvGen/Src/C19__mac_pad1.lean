import PyemvGen.Mod.mac_pad1
import PyemvProps.C19
/-! Generated by lean/mk_source.py (committed). C19 restated about the definitions translated from the
repository's source on this run (`Pyemv.Gen.*`), by the refinement theorem(s) mac_pad1. -/
namespace Pyemv.C19.Source
open Spec

theorem pad1_spec (bs : Nat) (hbs : 1 ≤ bs) (d : Bytes) :
    ∃ n, Gen.mac.pad_iso9797_1 d (some bs) = .ok (d ++ zeros n) ∧ (d.length + n) % bs = 0 ∧ 0 < d.length + n ∧
      ∀ m, m < n → ¬ ((d.length + m) % bs = 0 ∧ 0 < d.length + m) := by
  simp only [ModRefines.mac_pad1]
  exact _root_.Pyemv.C19.pad1_spec bs hbs d

end Pyemv.C19.Source
