import PyemvModel.Des
/-! # DES is a permutation of 64-bit blocks, and decryption is encryption under the reversed key schedule

A table permutation is characterised bit by bit (`permute_testBit`); that `FP` undoes `IP` is then a check on the 64
indices.  A Feistel round is undone by the same round on the swapped halves, so the rounds under the reversed schedule
undo the rounds (`feistel_inverse`); `crypt_reverse` puts the two together. -/
namespace Des

/-- where bit `i` (counted from the least significant end) of `permute tbl w x` comes from in `x`: the last table entry
gives bit 0 -/
def srcBit (tbl : List Nat) (w i : Nat) : Nat := w - tbl.reverse[i]!

theorem srcBit_mem {tbl : List Nat} {i : Nat} (w : Nat) (hi : i < tbl.length) : ∃ p ∈ tbl, srcBit tbl w i = w - p :=
  have hr : i < tbl.reverse.length := by rwa [List.length_reverse]
  ⟨tbl.reverse[i], List.mem_reverse.mp (List.getElem_mem hr), by rw [srcBit, getElem!_pos tbl.reverse i hr]⟩

theorem testBit_double_add (a : Nat) (c : Bool) (j : Nat) :
    (2 * a + (if c then 1 else 0)).testBit j = if j = 0 then c else a.testBit (j - 1) := by
  have := Nat.testBit_two_pow_mul_add a (i := 1) (b := if c then 1 else 0) (by cases c <;> decide) j
  rw [Nat.pow_one] at this
  rw [this]
  cases j with
  | zero => cases c <;> rfl
  | succ j => rfl

theorem permute_testBit (tbl : List Nat) (w x i : Nat) :
    (permute tbl w x).testBit i = (decide (i < tbl.length) && x.testBit (srcBit tbl w i)) := by
  rw [permute, List.foldl_eq_foldr_reverse, srcBit, ← List.length_reverse]
  generalize tbl.reverse = r
  induction r generalizing i with
  | nil => simp
  | cons p r ih =>
    rw [List.foldr_cons, testBit_double_add]
    cases i with
    | zero => simp
    | succ i => simp [ih]
theorem permute_lt (tbl : List Nat) (w x : Nat) : permute tbl w x < 2 ^ tbl.length := by
  apply Nat.lt_pow_two_of_testBit
  intro i hi
  rw [permute_testBit, decide_eq_false (by omega), Bool.false_and]

/-- composition of two table permutations is the identity when the index tables are mutually inverse -/
theorem permute_permute_id (t1 t2 : List Nat) (w : Nat) (h1 : t1.length = w) (h2 : t2.length = w)
    (hidx : (List.range w).all (fun i => srcBit t2 w (srcBit t1 w i) == i && decide (srcBit t1 w i < w)) = true)
    (x : Nat) (hx : x < 2 ^ w) : permute t1 w (permute t2 w x) = x := by
  apply Nat.eq_of_testBit_eq
  intro i
  rw [permute_testBit, permute_testBit, h1, h2]
  by_cases hi : i < w
  · have := List.all_eq_true.mp hidx i (List.mem_range.mpr hi)
    simp only [Bool.and_eq_true, beq_iff_eq, decide_eq_true_eq] at this
    simp [hi, this]
  · simpa [hi] using (Nat.testBit_lt_two_pow (Nat.lt_of_lt_of_le hx (Nat.pow_le_pow_right (by decide) (by omega)))).symm

theorem FP_IP (x : Nat) (hx : x < 2 ^ 64) : permute FP 64 (permute IP 64 x) = x :=
  permute_permute_id FP IP 64 rfl rfl (by decide +kernel) x hx

theorem IP_FP (x : Nat) (hx : x < 2 ^ 64) : permute IP 64 (permute FP 64 x) = x :=
  permute_permute_id IP FP 64 rfl rfl (by decide +kernel) x hx

def stepF (k : Nat) (lr : Nat × Nat) : Nat × Nat := (lr.2, lr.1 ^^^ f lr.2 k)

theorem rounds_eq_foldl (ks : List Nat) (l r : Nat) : rounds ks l r = ks.foldl (fun lr k => stepF k lr) (l, r) := rfl

theorem stepF_swap_stepF (k : Nat) (p : Nat × Nat) : stepF k (Prod.swap (stepF k p)) = Prod.swap p := by
  obtain ⟨l, r⟩ := p
  simp [stepF, Prod.swap, Nat.xor_assoc]

theorem feistel_inverse (ks : List Nat) (p : Nat × Nat) :
    ks.reverse.foldl (fun lr k => stepF k lr) (Prod.swap (ks.foldl (fun lr k => stepF k lr) p)) = Prod.swap p := by
  induction ks generalizing p with
  | nil => rfl
  | cons k t ih =>
    simp only [List.reverse_cons, List.foldl_append, List.foldl_cons, List.foldl_nil]
    rw [ih (stepF k p), stepF_swap_stepF]

theorem f_lt (r k : Nat) : f r k < 2 ^ 32 := permute_lt P 32 _

theorem rounds_lt (ks : List Nat) (p : Nat × Nat) (h1 : p.1 < 2 ^ 32) (h2 : p.2 < 2 ^ 32) :
    (ks.foldl (fun lr k => stepF k lr) p).1 < 2 ^ 32 ∧ (ks.foldl (fun lr k => stepF k lr) p).2 < 2 ^ 32 := by
  induction ks generalizing p with
  | nil => exact ⟨h1, h2⟩
  | cons k t ih => exact ih _ h2 (Nat.xor_lt_two_pow h1 (f_lt _ _))

theorem join_eq (a b : Nat) (hb : b < 2 ^ 32) : (a <<< 32) ||| b = a * 2 ^ 32 + b := by
  rw [← Nat.shiftLeft_add_eq_or_of_lt hb, Nat.shiftLeft_eq]

theorem join_hi (a b : Nat) (hb : b < 2 ^ 32) : ((a <<< 32) ||| b) >>> 32 = a := by
  rw [join_eq a b hb, Nat.shiftRight_eq_div_pow, Nat.add_comm, Nat.add_mul_div_right _ _ (by decide),
    Nat.div_eq_of_lt hb, Nat.zero_add]

theorem join_lo (a b : Nat) (hb : b < 2 ^ 32) : ((a <<< 32) ||| b) % 2 ^ 32 = b := by
  rw [join_eq a b hb, Nat.add_comm, Nat.add_mul_mod_self_right, Nat.mod_eq_of_lt hb]

theorem join_split (y : Nat) : ((y >>> 32) <<< 32) ||| (y % 2 ^ 32) = y := by
  rw [join_eq _ _ (Nat.mod_lt _ (by decide)), Nat.shiftRight_eq_div_pow, Nat.div_add_mod']

theorem join_lt (a b : Nat) (ha : a < 2 ^ 32) (hb : b < 2 ^ 32) : ((a <<< 32) ||| b) < 2 ^ 64 := by
  rw [join_eq a b hb]; omega

theorem crypt_lt (ks : List Nat) (x : Nat) : crypt ks x < 2 ^ 64 := permute_lt FP 64 _

theorem crypt_reverse (ks : List Nat) (x : Nat) (hx : x < 2 ^ 64) : crypt ks.reverse (crypt ks x) = x := by
  unfold crypt
  simp only [rounds_eq_foldl]
  have hy : permute IP 64 x < 2 ^ 64 := permute_lt IP 64 x
  generalize hyd : permute IP 64 x = y at hy
  obtain ⟨hl, hr⟩ := rounds_lt ks (y >>> 32, y % 2 ^ 32) (by rw [Nat.shiftRight_eq_div_pow]; omega)
    (Nat.mod_lt _ (by decide))
  have hinv := feistel_inverse ks (y >>> 32, y % 2 ^ 32)
  generalize ks.foldl (fun lr k => stepF k lr) (y >>> 32, y % 2 ^ 32) = q at hl hr hinv
  obtain ⟨ql, qr⟩ := q
  simp only [Prod.swap] at hinv
  rw [IP_FP _ (join_lt _ _ hr hl), join_hi _ _ hl, join_lo _ _ hl, hinv, join_split, ← hyd, FP_IP x hx]

theorem crypt_reverse' (ks : List Nat) (x : Nat) (hx : x < 2 ^ 64) : crypt ks (crypt ks.reverse x) = x := by
  simpa using crypt_reverse ks.reverse x hx

/-- **DES decryption inverts encryption** (for every key, every 64-bit block). -/
theorem dec_enc (key x : Nat) (hx : x < 2 ^ 64) : dec key (enc key x) = x := crypt_reverse _ x hx

theorem enc_dec (key x : Nat) (hx : x < 2 ^ 64) : enc key (dec key x) = x := crypt_reverse' _ x hx

end Des
