import PyemvProofs.TlvGood
import PyemvProps.C10
/-!
# C18 — decoded TLV re-encodes stably; flatten and convert are views of one parse

`treeOfDict` is the tree the decoder hands to the caller (upper-case hex names, values as bytes).
-/
namespace Pyemv.C18
open Pyemv.Tlv Pyemv.TlvSpec Pyemv.RoundTrip Pyemv.Refine

/-- the parse of a decodable input -/
theorem parse_of_decode (fl si : Bool) (x : Bytes) (o : Nat) (d : Dict) (h : decode fl si x = .ok o d) :
    ∃ items, parseItems si 0 x = .ok items ∧ d = absInto fl [] items :=
  (C09.decode_ok_iff fl si x d).mp ⟨o, h⟩

/-- **canonical input re-encodes byte for byte**: if the input parses to well-formed items with shortest
length fields and no tag repeated within a template, then encoding the decoded tree reproduces the input -/
theorem reencode_canonical (si : Bool) (x : Bytes) (items : List Item) (hp : parseItems si 0 x = .ok items)
    (hx : x = printItems items) (hwf : ∀ i ∈ items, WF si i) (hc : CanonLens si items) (hd : Distinct items) :
    ∃ d, decode false si x = .ok x.length d ∧ encode si (treeOfDict d) = .ok x := by
  refine ⟨_, decode_of_parse hp, ?_⟩
  rw [show treeOfDict (absInto false [] items) = treeOfItems items from absNested_distinct items hd [] nofun, hx]
  exact encode_treeOfItems si items hwf hc

/-- canonical serialisations parse to themselves (so the hypotheses above are satisfiable for every
well-formed canonical CST) -/
theorem canonical_parses (si : Bool) (items : List Item) (hwf : ∀ i ∈ items, WF si i) :
    parseItems si 0 (printItems items) = .ok items :=
  parse_print' si items 0 hwf

/-- **flatten is a view of the parse**: the flattened result is the fold of all primitive objects at every
depth in input order, the last occurrence winning — a view of the *parse*, not of the nested dict -/
theorem flat_eq_prims (si : Bool) (x : Bytes) (o : Nat) (d : Dict) (h : decode true si x = .ok o d) :
    ∃ items, parseItems si 0 x = .ok items ∧ d = (prims items).foldl (fun (d : Dict) (p : Bytes × Bytes) => Dict.set d p.1 (.prim p.2)) [] := by
  obtain ⟨items, hp, hd⟩ := parse_of_decode true si x o d h
  refine ⟨items, hp, ?_⟩
  rw [hd]; exact absFlat_eq_prims items []

/-- **convert is applied exactly once to each primitive object's (tag, value), in input order, and never
to a template**: the call log is the list of primitives of the parse (or of its completed part) -/
theorem convert_calls {α} (conv : Bytes → Bytes → α) (fl si : Bool) (x : Bytes) :
    match decodeC conv fl si x, parseItems si 0 x with
    | .ok o _ log, .ok items => o = x.length ∧ log = prims items
    | .err _ _ log, .error (_, part) => log = prims part
    | _, _ => False :=
  (decode_runs conv fl si x).elim
    (P := fun _ rc p => match rc, p with
      | .ok o _ log, .ok items => o = x.length ∧ log = prims items
      | .err _ _ log, .error (_, part) => log = prims part
      | _, _ => False)
    (fun _ => ⟨rfl, rfl⟩) (fun _ _ _ _ => rfl)

/-- **any converted result equals the plain result mapped through the conversion** (same outcome, same
error, dictionaries related by `mapDict conv`) -/
theorem convert_natural {α} (conv : Bytes → Bytes → α) (fl si : Bool) (x : Bytes) :
    SimRel conv (decode fl si x) (decodeC conv fl si x) := decodeC_sim conv fl si x

theorem good_of_decode {si : Bool} {x : Bytes} {o : Nat} {d : Dict} (h : decode false si x = .ok o d) :
    Good si d ∧ encSize si d ≤ x.length := by
  obtain ⟨items, hp, rfl⟩ := parse_of_decode false si x o d h
  obtain ⟨hx, hwf⟩ := parse_sound' si 0 x items hp
  have hg := absNested_good' si [] items hwf .nil
  rwa [encSize_nil, Nat.zero_add, ← hx] at hg

/-- **every decodable input re-encodes stably**: for every byte string
`x` the decoder accepts, in either mode, encoding the decoded tree succeeds, the result decodes to the same
tree again (same keys, same order, same values), and it is no longer than `x`.  Non-minimal length fields and
repeated tags in `x` are covered: the proof goes through an invariant of decoded dictionaries
(`Tlv.Good`: distinct keys, each a valid tag whose bit 6 matches the node kind, sizes expressible in the
mode's length field) that decoding establishes (`good_of_decode`: `absNested_good'` over the sound parse `parse_sound'`)
and under which every dictionary, decoded or not, re-encodes (`good_reencodes`). -/
theorem reencode (si : Bool) (x : Bytes) (o : Nat) (d : Dict) (h : decode false si x = .ok o d) :
    ∃ e, encode si (treeOfDict d) = .ok e ∧ decode false si e = .ok e.length d ∧ e.length ≤ x.length := by
  obtain ⟨good, size⟩ := good_of_decode h
  obtain ⟨he, hd⟩ := good_reencodes good
  exact ⟨_, he, hd, size⟩

/-- non-vacuity: an input with a padded length field and a repeated tag decodes, and its tree re-encodes to
a shorter canonical string -/
example : decode false false [0x9C, 0x81, 0x01, 0x07, 0x9C, 0x01, 0x08] = .ok 7 [([0x9C], .prim [0x08])] ∧
    encode false (treeOfDict [([0x9C], Node.prim [0x08])]) = .ok [0x9C, 0x01, 0x08] := by
  constructor <;> rfl

/-- the encoder side of the same fact, for trees that do not come from the decoder: whatever the encoder
accepts decodes to the fold of its mirror CST. -/
theorem encoded_decodes_to_mirror (si : Bool) (t : List (PyStr × PyVal)) (b : Bytes) (h : encode si t = .ok b)
    (hlen : si = false → b.length < 256 ^ 127) :
    ∃ items, Mirror si t items ∧ decode false si b = .ok b.length (absInto false [] items) := by
  exact C10.roundtrip false si t b h hlen

example : prims [.cons [0xE0] [3] [.prim [0x9C] [1] [7]], .prim [0x9A] [0] []] = [([0x9C], [7]), ([0x9A], [])] := by
  simp [prims]

end Pyemv.C18
