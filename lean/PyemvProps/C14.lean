import PyemvModel
/-!
# C14 — results depend only on the call's arguments: no hidden state, no mutation

The API as a state machine.  State = the set of live cryptogram-version objects, each holding the three
ICC master keys computed by its constructor; there is no module state.  `step` executes one call.
The theorems say that every output is a pure function of (constructor arguments, call arguments),
whatever history precedes it, and that no method changes a stored key.

These are *easy* because the model is pure by construction: the content of C14 lies in the tie — the
harness replays call histories (in order, permuted, from concurrent threads, with argument snapshots)
against the real code and compares every result with `outOf`, the model's value for that call alone.
Thread interleavings and hidden interpreter state cannot be exhibited in Lean (labelled partial).
-/
namespace Pyemv.C14

/-- module-level functions of the public API -/
inductive FnCall where
  | generateAc (sk d : Bytes) (pt : Option PaddingType) (l : Option Nat)
  | arpc1 (sk arqc rc : Bytes)
  | arpc2 (sk arqc csu : Bytes) (pad : Option Bytes)
  | mkA (k : Bytes) (pan : StrOrBytes) (psn : Option StrOrBytes)
  | mkB (k : Bytes) (pan : StrOrBytes) (psn : Option StrOrBytes)
  | commonSk (mk r : Bytes)
  | visaSk (mk atc : Bytes)
  | treeSk (mk atc : Bytes) (h b : Nat) (iv : Bytes)
  | commandMac (sk c : Bytes) (l : Option Nat)
  | encrypt (sk d : Bytes) (t : EncryptionType)
  | visPin (mk : Bytes) (p : StrOrBytes) (c : Option StrOrBytes)
  | iso2Pin (p : StrOrBytes)
  | cvc3 (k t atc un : Bytes)
  | mac3 (k1 k2 d : Bytes) (pm : Int) (l : Option Nat)
  | ecb (k d : Bytes)
  | cbc (k iv d : Bytes)
  | decode (fl si : Bool) (d : Bytes)
  | encode (si : Bool) (t : List (PyStr × Tlv.PyVal))

inductive Out where
  | bytes (r : R Bytes)
  | text (r : R PyStr)
  | dec (r : Tlv.Res)
  | enc (r : Except Tlv.EErr Bytes)
  | card (r : R Cvn.Card)
  | noObject

def FnCall.eval : FnCall → Out
  | .generateAc sk d pt l => .bytes (Pyemv.generateAc sk d pt l)
  | .arpc1 sk q rc => .bytes (generateArpc1 sk q rc)
  | .arpc2 sk q csu p => .bytes (generateArpc2 sk q csu p)
  | .mkA k pan psn => .bytes (deriveIccMkA k pan psn)
  | .mkB k pan psn => .bytes (deriveIccMkB k pan psn)
  | .commonSk mk r => .bytes (deriveCommonSk mk r)
  | .visaSk mk a => .bytes (deriveVisaSmSk mk a)
  | .treeSk mk a h b iv => .bytes (deriveEmv2000TreeSk mk a h b iv)
  | .commandMac sk c l => .bytes (generateCommandMac sk c l)
  | .encrypt sk d t => .bytes (encryptCommandData sk d t)
  | .visPin mk p c => .bytes (formatVisPinBlock mk p c)
  | .iso2Pin p => .bytes (formatIso2PinBlock p)
  | .cvc3 k t a u => .text (generateCvc3 k t a u)
  | .mac3 k1 k2 d pm l => .bytes (Pyemv.mac3 k1 k2 d pm l)
  | .ecb k d => .bytes (encryptTdesEcb k d)
  | .cbc k iv d => .bytes (encryptTdesCbc k iv d)
  | .decode fl si d => .dec (Tlv.decode fl si d)
  | .encode si t => .enc (Tlv.encode si t)

/-- methods of a cryptogram-version object -/
inductive Method where
  | generateAc (a : Cvn.AcArgs)
  | generateArpc (arqc atc un x : Bytes) (pad : Option Bytes)
  | commandMac (hdr arqc atc d : Bytes)
  | encrypt (d arqc atc : Bytes)
  | pinChange (pin : StrOrBytes) (arqc atc : Bytes) (cur : Option StrOrBytes)
  | readKeys

def Method.eval (p : Cvn.Profile) (c : Cvn.Card) : Method → Out
  | .generateAc a => .bytes (Cvn.generateAc p c a)
  | .generateArpc q atc un x pad => .bytes (Cvn.generateArpc p c q atc un x pad)
  | .commandMac h q atc d => .bytes (Cvn.commandMac p c h q atc d)
  | .encrypt d q atc => .bytes (Cvn.encrypt p c d q atc)
  | .pinChange pin q atc cur => .bytes (Cvn.pinChange p c pin q atc cur)
  | .readKeys => .bytes (.ok (c.ac ++ c.smi ++ c.smc))

structure CtorArgs where
  profile : Cvn.Profile
  kAc : Bytes
  kSmi : Bytes
  kSmc : Bytes
  pan : StrOrBytes
  psn : Option StrOrBytes

def CtorArgs.build (a : CtorArgs) : R Cvn.Card := Cvn.new a.profile a.kAc a.kSmi a.kSmc a.pan a.psn

inductive Op where
  | fn (c : FnCall)
  | new (id : Nat) (a : CtorArgs)
  | method (id : Nat) (m : Method)

/-- the only state kept between calls: live objects, each with its profile and three stored keys -/
abbrev State := List (Nat × Cvn.Profile × Cvn.Card)

def lookup (s : State) (id : Nat) : Option (Cvn.Profile × Cvn.Card) := (s.find? (·.1 == id)).map (·.2)

def step (s : State) : Op → State × Out
  | .fn c => (s, c.eval)
  | .new id a =>
    match a.build with
    | .ok card => ((id, a.profile, card) :: s.filter (·.1 != id), .card (.ok card))
    | .error e => (s, .card (.error e))
  | .method id m =>
    match lookup s id with
    | some (p, c) => (s, m.eval p c)
    | none => (s, .noObject)

def run (s : State) : List Op → State × List Out
  | [] => (s, [])
  | op :: ops => let r := step s op; let rest := run r.1 ops; (rest.1, r.2 :: rest.2)

/-- a function result is the same whatever calls were made before: it is `eval` of its arguments -/
theorem fn_result_independent_of_history (s : State) (hist : List Op) (c : FnCall) :
    (step (run s hist).1 (.fn c)).2 = c.eval := rfl

/-- … and leaves the state as it was -/
theorem fn_preserves_state (s : State) (c : FnCall) : (step s (.fn c)).1 = s := rfl

theorem step_method (s : State) (id : Nat) (m : Method) :
    step s (.method id m) = (s, match lookup s id with | some (p, c) => m.eval p c | none => .noObject) := by
  simp only [step]; split <;> rfl

/-- no method changes the stored keys of any object -/
theorem method_preserves_state (s : State) (id : Nat) (m : Method) : (step s (.method id m)).1 = s := by
  rw [step_method]

def createsId (id : Nat) : Op → Bool
  | .new id' _ => id' == id
  | _ => false

theorem lookup_step (s : State) (op : Op) (id : Nat) (h : createsId id op = false) :
    lookup (step s op).1 id = lookup s id := by
  cases op with
  | fn c => rfl
  | method i m => rw [method_preserves_state]
  | new i a =>
    have hne : i ≠ id := by simpa [createsId] using h
    simp only [step]
    cases a.build with
    | error e => rfl
    | ok card =>
      simp only [lookup, List.find?_cons, beq_eq_false_iff_ne.mpr hne, List.find?_filter]
      -- dropping the entries of another id `i` does not change what is found for `id`
      congr 2; funext x
      by_cases hx : x.1 = id <;> simp [hx, Ne.symm hne]

theorem lookup_run (s : State) (ops : List Op) (id : Nat) (h : ∀ op ∈ ops, createsId id op = false) :
    lookup (run s ops).1 id = lookup s id := by
  induction ops generalizing s with
  | nil => rfl
  | cons op ops ih =>
    obtain ⟨hop, hops⟩ := List.forall_mem_cons.mp h
    rw [run, ih _ hops, lookup_step s op id hop]

/-- a method result is a pure function of (constructor arguments, call arguments): after constructing
object `id` and *any* history that does not re-create that id — calls for other cards, keys, ATCs,
repeated calls — the method returns `eval` on the card built from the constructor arguments alone -/
theorem method_result_pure (s : State) (id : Nat) (a : CtorArgs) (card : Cvn.Card) (hist : List Op) (m : Method)
    (hb : a.build = .ok card) (hh : ∀ op ∈ hist, createsId id op = false) :
    (step (run (step s (.new id a)).1 hist).1 (.method id m)).2 = m.eval a.profile card := by
  have h0 : lookup (step s (.new id a)).1 id = some (a.profile, card) := by
    simp [step, hb, lookup]
  have h1 := lookup_run (step s (.new id a)).1 hist id hh
  rw [step_method, h1, h0]

/-- the outputs of a whole history are obtained call by call from the state each call sees -/
theorem history_outputs (s : State) (ops : List Op) :
    (run s ops).2.length = ops.length := by
  induction ops generalizing s with
  | nil => rfl
  | cons op ops ih => simp [run, ih]

/-- repeating a call returns the same value -/
theorem repeat_same (s : State) (c : FnCall) : (run s [.fn c, .fn c]).2 = [c.eval, c.eval] := rfl

example : (step [] (.fn (.iso2Pin (.str ['1', '2', '3', '4'])))).2 = (FnCall.iso2Pin (.str ['1', '2', '3', '4'])).eval := rfl

end Pyemv.C14
