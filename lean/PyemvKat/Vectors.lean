import PyemvProps.KnownAnswers
/-! The longer known answers: the remaining worked examples of pyemv's docstrings and two FIPS 180 vectors, evaluated
like those of `PyemvProps/KnownAnswers`.  Not in the default build; the thorough tier builds them. -/
namespace Pyemv.KnownAnswers

/-- FIPS 180 SHA-1("") -/
example : Sha1.sha1 [] = [0xDA, 0x39, 0xA3, 0xEE, 0x5E, 0x6B, 0x4B, 0x0D, 0x32, 0x55, 0xBF, 0xEF, 0x95, 0x60, 0x18, 0x90, 0xAF, 0xD8, 0x07, 0x09] := by simp only [kat]; decide +kernel

/-- FIPS 180 SHA-1 of the 56-byte message (two blocks) -/
example : Sha1.sha1 ("abcdbcdecdefdefgefghfghighijhijkijkljklmklmnlmnomnopnopq".toList.map fun c => UInt8.ofNat c.toNat) = [0x84, 0x98, 0x3E, 0x44, 0x1C, 0x3B, 0xD2, 0x6E, 0xBA, 0xAE, 0x4A, 0xA1, 0xF9, 0x51, 0x29, 0xE5, 0xE5, 0x46, 0x70, 0xF1] := by simp only [kat]; decide +kernel

/-- mac.mac_iso9797_3 docstring -/
example : val (mac3 [0x01, 0x23, 0x45, 0x67, 0x89, 0xAB, 0xCD, 0xEF, 0xFE, 0xDC, 0xBA, 0x98, 0x76, 0x54, 0x32, 0x10] [0xFE, 0xDC, 0xBA, 0x98, 0x76, 0x54, 0x32, 0x10, 0x01, 0x23, 0x45, 0x67, 0x89, 0xAB, 0xCD, 0xEF] [0x12, 0x34, 0x56, 0x78, 0x90, 0xAB, 0xCD, 0xEF] 2 none) = [0x64, 0x4A, 0xA5, 0xC9, 0x15, 0xDB, 0xDA, 0xF8] := by simp only [kat]; decide +kernel

/-- ac module docstring: ARQC -/
example : val (generateAc [0x29, 0xB3, 0x31, 0x80, 0xE5, 0x67, 0xCE, 0x38, 0xEA, 0x4C, 0xBC, 0x9D, 0x75, 0x3B, 0x0E, 0x61] [0x01, 0x23, 0x45, 0x67, 0x89, 0xAB, 0xCD, 0xEF, 0x01, 0x23, 0x45, 0x67, 0x89, 0xAB, 0xCD, 0xEF] none none) = [0xFA, 0x62, 0x42, 0x50, 0xB0, 0x08, 0xB5, 0x9A] := by simp only [kat]; decide +kernel

/-- ac module docstring: ARPC method 2 -/
example : val (generateArpc2 [0x29, 0xB3, 0x31, 0x80, 0xE5, 0x67, 0xCE, 0x38, 0xEA, 0x4C, 0xBC, 0x9D, 0x75, 0x3B, 0x0E, 0x61] [0xFA, 0x62, 0x42, 0x50, 0xB0, 0x08, 0xB5, 0x9A] [0x00, 0x00, 0x00, 0x00] none) = [0xCB, 0x56, 0xFA, 0x40] := by simp only [kat]; decide +kernel

/-- ac.generate_ac docstring -/
example : val (generateAc [0xAA, 0xAA, 0xAA, 0xAA, 0xAA, 0xAA, 0xAA, 0xAA, 0xBB, 0xBB, 0xBB, 0xBB, 0xBB, 0xBB, 0xBB, 0xBB] [0x00, 0x00, 0x00, 0x00, 0x20, 0x00, 0x00, 0x00, 0x00, 0x00, 0x00, 0x00, 0x01, 0x24, 0x00, 0x00, 0x00, 0x80, 0x00, 0x01, 0x24, 0x11, 0x03, 0x09, 0x00, 0x38, 0x04, 0x82, 0x3E, 0x58, 0x00, 0x00, 0x01] none none) = [0x3B, 0x76, 0xCF, 0x10, 0xFE, 0xCD, 0x87, 0x89] := by simp only [kat]; decide +kernel

/-- ac.generate_arpc_2 docstring -/
example : val (generateArpc2 [0xAA, 0xAA, 0xAA, 0xAA, 0xAA, 0xAA, 0xAA, 0xAA, 0xBB, 0xBB, 0xBB, 0xBB, 0xBB, 0xBB, 0xBB, 0xBB] [0x12, 0x34, 0x56, 0x78, 0x90, 0xAB, 0xCD, 0xEF] [0x00, 0x00, 0x00, 0x00] none) = [0x93, 0x08, 0xBE, 0xBC] := by simp only [kat]; decide +kernel

/-- kd.derive_icc_mk_a docstring -/
example : val (deriveIccMkA [0x01, 0x23, 0x45, 0x67, 0x89, 0xAB, 0xCD, 0xEF, 0xFE, 0xDC, 0xBA, 0x98, 0x76, 0x54, 0x32, 0x10] (.str ['1', '2', '3', '4', '5', '6', '7', '8', '9', '0', '1', '2', '3', '4', '5', '6', '7']) (some (.str ['0', '1']))) = [0x73, 0xAD, 0x54, 0x68, 0x8C, 0xEF, 0x29, 0x34, 0xB0, 0x97, 0x98, 0x57, 0xE3, 0xC7, 0x19, 0xF1] := by simp only [kat]; decide +kernel

/-- kd.derive_icc_mk_b docstring (SHA-1 branch) -/
example : val (deriveIccMkB [0x01, 0x23, 0x45, 0x67, 0x89, 0xAB, 0xCD, 0xEF, 0xFE, 0xDC, 0xBA, 0x98, 0x76, 0x54, 0x32, 0x10] (.str ['1', '2', '3', '4', '5', '6', '7', '8', '9', '0', '1', '2', '3', '4', '5', '6', '7']) (some (.str ['0', '1']))) = [0xAD, 0x40, 0x6D, 0x7F, 0x6D, 0x75, 0x70, 0x91, 0x6D, 0x75, 0xE5, 0xDC, 0xAB, 0x8C, 0xF7, 0x37] := by simp only [kat]; decide +kernel

/-- kd.derive_emv2000_tree_sk docstring (height 8, branch factor 4, zero IV) -/
example : val (deriveEmv2000TreeSk [0x01, 0x23, 0x45, 0x67, 0x89, 0xAB, 0xCD, 0xEF, 0xFE, 0xDC, 0xBA, 0x98, 0x76, 0x54, 0x32, 0x10] [0x00, 0x1C] 8 4 [0x00, 0x00, 0x00, 0x00, 0x00, 0x00, 0x00, 0x00, 0x00, 0x00, 0x00, 0x00, 0x00, 0x00, 0x00, 0x00]) = [0xE5, 0xBF, 0x6D, 0x10, 0x67, 0xF1, 0x94, 0xB0, 0xA8, 0x9B, 0x7F, 0x5D, 0x83, 0xBC, 0x64, 0xA2] := by simp only [kat]; decide +kernel

/-- sm module docstring: script MAC -/
example : val (generateCommandMac [0x01, 0x23, 0x45, 0x67, 0x89, 0xAB, 0xCD, 0xEF, 0xFE, 0xDC, 0xBA, 0x98, 0x76, 0x54, 0x32, 0x10] [0x84, 0x24, 0x00, 0x00, 0x08] none) = [0x0B, 0xFF, 0xF5, 0xDF, 0x3F, 0xAA, 0x24, 0xE1] := by simp only [kat]; decide +kernel

/-- sm.generate_command_mac docstring -/
example : val (generateCommandMac [0x01, 0x23, 0x45, 0x67, 0x89, 0xAB, 0xCD, 0xEF, 0xFE, 0xDC, 0xBA, 0x98, 0x76, 0x54, 0x32, 0x10] [0x84, 0x24, 0x00, 0x00, 0x08, 0xFF, 0xFF, 0x12, 0x34, 0x56, 0x78, 0x90, 0x12, 0x34, 0x56] none) = [0xE0, 0x7B, 0x8D, 0xF1, 0xB4, 0x18, 0x42, 0x82] := by simp only [kat]; decide +kernel

/-- cvv.generate_cvc3 docstring -/
example : val (generateCvc3 [0x6D, 0x64, 0x25, 0xFB, 0x94, 0x01, 0xC2, 0x1A, 0xA1, 0xF8, 0x04, 0x51, 0xAB, 0x85, 0xDA, 0x3B] [0x51, 0x23, 0x45, 0x67, 0x89, 0x01, 0x23, 0x45, 0xD3, 0x51, 0x21, 0x01, 0x00, 0x00, 0x00, 0x00, 0x00, 0x00, 0x0F] [0x00, 0x5E] [0x00, 0x00, 0x08, 0x99]) = ['2', '9', '4', '8', '8'] := by simp only [kat]; decide +kernel

end Pyemv.KnownAnswers
