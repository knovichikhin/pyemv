import PyemvSpec.Basic
import PyemvProofs.Bytes
/-! # Padding: the code-shaped `pad1`/`pad2` equal the Spec, and the Spec's contract -/
namespace Pyemv
open Spec

theorem pad1_eq_spec (bs : Nat) (hbs : 1 ≤ bs) (d : Bytes) : pad1 d (some bs) = .ok (Spec.pad1 bs d) := by
  simp only [pad1, Spec.pad1, fill1, Option.getD_some, if_neg (show ¬bs = 0 by omega)]
  split
  · rfl
  · split
    · rename_i h; cases List.eq_nil_of_length_eq_zero h; rfl
    · rw [zeros, List.replicate_zero, List.append_nil]

theorem pad1_default (d : Bytes) : pad1 d none = pad1 d (some 8) := rfl

theorem pad2_eq_spec (bs : Nat) (hbs : 1 ≤ bs) (d : Bytes) : pad2 d (some bs) = .ok (Spec.pad2 bs d) := by
  rw [pad2, Option.getD_some, pad1_eq_spec bs hbs, Spec.pad1, Spec.pad2, List.length_append]
  rfl

theorem pad2_default (d : Bytes) : pad2 d none = pad2 d (some 8) := rfl

theorem pad_zero_block (d : Bytes) : pad1 d (some 0) = .error .zeroDivision := rfl

namespace Spec

@[simp] theorem pad1_length (bs : Nat) (d : Bytes) : (pad1 bs d).length = d.length + fill1 bs d.length := by
  simp [pad1]

@[simp] theorem pad2_length (bs : Nat) (d : Bytes) : (pad2 bs d).length = d.length + 1 + fill1 bs (d.length + 1) := by
  simp [pad2]; omega

/-- **method 1 contract**: data, then the *fewest* zero bytes making the length a *positive* multiple -/
theorem pad1_contract (bs : Nat) (hbs : 1 ≤ bs) (d : Bytes) :
    let n := fill1 bs d.length
    pad1 bs d = d ++ zeros n ∧ (d.length + n) % bs = 0 ∧ 0 < d.length + n ∧
      ∀ m, m < n → ¬ ((d.length + m) % bs = 0 ∧ 0 < d.length + m) := by
  refine ⟨rfl, ?_⟩
  have hlt := Nat.mod_lt d.length hbs
  -- `m` more bytes move the remainder up by `m`, as long as that stays below the block size
  have step : ∀ m, d.length % bs + m < bs → (d.length + m) % bs = d.length % bs + m := fun m h => by
    rw [Nat.add_mod, Nat.mod_eq_of_lt (show m < bs by omega), Nat.mod_eq_of_lt h]
  unfold fill1
  split
  · -- a partial last block is filled up: the remainder and the fill make exactly one block
    refine ⟨?_, by omega, fun m hm hcon => ?_⟩
    · rw [Nat.add_mod, Nat.mod_eq_of_lt (show bs - d.length % bs < bs by omega), Nat.add_sub_cancel' (Nat.le_of_lt hlt),
        Nat.mod_self]
    · have := step m (by omega); omega
  · split
    · -- the empty message gets one whole block
      rename_i h
      refine ⟨by rw [h, Nat.zero_add, Nat.mod_self], by omega, fun m hm hcon => ?_⟩
      have := step m (by omega); omega
    · -- whole blocks get nothing
      exact ⟨by rw [Nat.add_zero]; omega, by omega, fun m hm => by omega⟩

theorem pad2_eq_pad1 (bs : Nat) (d : Bytes) : pad2 bs d = pad1 bs (d ++ [0x80]) := by
  simp [pad1, pad2]

/-- method 2 always adds the 0x80 byte and fewer than `bs` zero bytes -/
theorem fill_after_marker_lt (bs : Nat) (hbs : 1 ≤ bs) (len : Nat) : fill1 bs (len + 1) < bs := by
  unfold fill1
  split
  · omega
  · split <;> omega

theorem pad1_length_multiple (bs : Nat) (hbs : 1 ≤ bs) (d : Bytes) : (pad1 bs d).length % bs = 0 ∧ 0 < (pad1 bs d).length := by
  rw [pad1_length]; exact ⟨(pad1_contract bs hbs d).2.1, (pad1_contract bs hbs d).2.2.1⟩

theorem pad2_length_multiple (bs : Nat) (hbs : 1 ≤ bs) (d : Bytes) : (pad2 bs d).length % bs = 0 ∧ 0 < (pad2 bs d).length := by
  rw [pad2_eq_pad1]; exact pad1_length_multiple bs hbs _

/-- with 8-byte blocks: the smallest multiple of 8 that holds the data and the marker byte -/
theorem pad2_length_8 (d : Bytes) : (pad2 8 d).length = 8 * ((d.length + 1 + 7) / 8) := by
  have h := (pad2_length_multiple 8 (by decide) d).1
  have hf := fill_after_marker_lt 8 (by decide) d.length
  rw [pad2_length] at h ⊢
  omega

/-- **method 2 is reversible** for every data string, including data ending in 0x80 or 0x00 bytes -/
theorem unpad2_pad2 (bs : Nat) (d : Bytes) : unpad2 (pad2 bs d) = some d := by
  -- read from the end: the zero fill is skipped, the marker byte stops the scan
  rw [unpad2, pad2, List.reverse_append, List.reverse_append, zeros, List.reverse_replicate,
    List.dropWhile_append_of_pos fun a ha => by rw [List.eq_of_mem_replicate ha]; rfl]
  exact congrArg some (List.reverse_reverse d)

/-- Visa convention: nothing is added to a non-empty whole number of blocks, one zero block to the empty message -/
theorem pad1_cases (d : Bytes) :
    (d = [] → pad1 8 d = zeros 8) ∧ (d ≠ [] → d.length % 8 = 0 → pad1 8 d = d) := by
  refine ⟨fun h => h ▸ rfl, fun hne h8 => ?_⟩
  have : d.length ≠ 0 := fun h => hne (List.eq_nil_of_length_eq_zero h)
  simp [pad1, fill1, h8, this, zeros]

end Spec
end Pyemv
