import PyemvGen.Mod.Common
import PyemvProps.C04
import PyemvGen.Mod.tools_xor
import PyemvGen.Mod.tools_adjust
namespace Pyemv.ModRefines
open Pyemv.Gen

theorem kd_derive_visa_sm_sk (mk atc : Bytes) : Gen.kd.derive_visa_sm_sk mk atc = deriveVisaSmSk mk atc := by
  unfold Gen.kd.derive_visa_sm_sk deriveVisaSmSk
  simp only [tools_xor, rep_flatten, zeros, tools_adjust, throw_eq, pure_eq_ok, ok_bind, error_bind, bind_ok, except_match_eta]
  same_guards

/-- **C04 (Visa session key) about the translated source** -/
theorem source_derive_visa_sm_sk (mk atc : Bytes) (hmk : mk.length = 16) (ha : atc.length = 2) :
    Gen.kd.derive_visa_sm_sk mk atc = .ok (adjustKeyParity (C04.visaFormula mk atc)) := by
  rw [kd_derive_visa_sm_sk]; exact C04.visa_sk_eq_spec mk atc hmk ha

end Pyemv.ModRefines
