import PyemvGen.Mod.ac_generate_arpc_1
import PyemvProps.C15
/-! Generated by lean/mk_source.py (committed). C15 restated about the definitions translated from the
repository's source on this run (`Pyemv.Gen.*`), by the refinement theorem(s) ac_generate_arpc_1. -/
namespace Pyemv.C15.Source
open Spec

theorem arpc1_rejects (sk arqc rc : Bytes) (h : sk.length ≠ 16 ∨ arqc.length ≠ 8 ∨ rc.length ≠ 2) :
    Gen.ac.generate_arpc_1 sk arqc rc = .error .valueError := by
  simp only [ModRefines.ac_generate_arpc_1]
  exact _root_.Pyemv.C15.arpc1_rejects sk arqc rc h

theorem arpc1_accepts (sk arqc rc : Bytes) (h1 : sk.length = 16) (h2 : arqc.length = 8) (h3 : rc.length = 2) :
    ∃ v, Gen.ac.generate_arpc_1 sk arqc rc = .ok v := by
  simp only [ModRefines.ac_generate_arpc_1]
  exact _root_.Pyemv.C15.arpc1_accepts sk arqc rc h1 h2 h3

end Pyemv.C15.Source
