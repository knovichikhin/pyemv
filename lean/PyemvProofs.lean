import PyemvProofs.Bytes
import PyemvProofs.Decimal
import PyemvProofs.DesFast
import PyemvProofs.DesParity
import PyemvProofs.DesProofs
import PyemvProofs.Except
import PyemvProofs.Hex
import PyemvProofs.Kat
import PyemvProofs.KatAttr
import PyemvProofs.Mac
import PyemvProofs.Modes
import PyemvProofs.Pad
import PyemvProofs.Par
import PyemvProofs.Parity
import PyemvProofs.Sha1Fast
import PyemvProofs.Tdes
import PyemvProofs.TlvDecode
import PyemvProofs.TlvDict
import PyemvProofs.TlvEncode
import PyemvProofs.TlvGood
import PyemvProofs.TlvLen
import PyemvProofs.TlvReencode
import PyemvProofs.TlvRefine
import PyemvProofs.TlvRoundTrip
import PyemvProofs.Tree
