import PyemvProofs.Bytes
import PyemvProofs.Except
/-! # Strings of hex digits: `binascii.a2b_hex` and its inverse `hex().upper()`; the `str` and `bytes` forms of a digit string -/
namespace Pyemv

def upperHexChars : List Char := "0123456789ABCDEF".toList
def digitChars : List Char := "0123456789".toList

/-! `IsUpperHex s` and `IsDigits s` are `s ⊆ chars` written out, so the `List.Subset` lemmas of core
(`append_subset`, `cons_subset`, `replicate_subset`, `drop_subset`, `take_subset`, `Subset.trans`) apply to them as they stand. -/
def IsUpperHex (s : PyStr) : Prop := ∀ c ∈ s, c ∈ upperHexChars
def IsDigits (s : PyStr) : Prop := ∀ c ∈ s, c ∈ digitChars

/-! The upper-case hex digits are the renderings of 0..15 by `hexDigitUpper`, and `hexVal` reads each of them back. -/
theorem upperHexChars_eq : upperHexChars = (List.range 16).map hexDigitUpper := by decide

theorem hexVal_hexDigitUpper : ∀ k : Fin 16, hexVal (hexDigitUpper k.val) = some k.val := by decide

theorem upperHex_table : ∀ c ∈ upperHexChars, ∃ v, v < 16 ∧ hexVal c = some v ∧ hexDigitUpper v = c := by
  intro c hc
  rw [upperHexChars_eq] at hc
  obtain ⟨v, hv, rfl⟩ := List.mem_map.mp hc
  exact ⟨v, List.mem_range.mp hv, hexVal_hexDigitUpper ⟨v, List.mem_range.mp hv⟩, rfl⟩

theorem digit_table : ∀ c ∈ digitChars,
    c ∈ upperHexChars ∧ hexVal c = some (c.toNat - 48) ∧ c.toNat - 48 < 10 ∧ c.toNat < 128 := by
  decide

theorem zero_digit : '0' ∈ digitChars := by decide
theorem zero_upperHex : '0' ∈ upperHexChars := (digit_table _ zero_digit).1
theorem F_upperHex : 'F' ∈ upperHexChars := by decide

theorem IsDigits.upperHex {s : PyStr} (h : IsDigits s) : IsUpperHex s := fun c hc => (digit_table c (h c hc)).1

theorem IsUpperHex.append {s t : PyStr} (hs : IsUpperHex s) (ht : IsUpperHex t) : IsUpperHex (s ++ t) :=
  List.append_subset.mpr ⟨hs, ht⟩

theorem lastN_subset {α} (n : Nat) (l : List α) : lastN n l ⊆ l := List.drop_subset _ l

theorem zfill_subset {S : List Char} (h0 : '0' ∈ S) (n : Nat) {s : PyStr} (h : s ⊆ S) : zfill n s ⊆ S :=
  List.append_subset.mpr ⟨List.replicate_subset.mpr (.inr h0), h⟩

theorem zfill_length (n : Nat) (s : PyStr) : (zfill n s).length = max n s.length := by
  rw [zfill, List.length_append, List.length_replicate]; omega

theorem zfill_lastN_length (n : Nat) (s : PyStr) : (zfill n (lastN n s)).length = n := by
  rw [zfill_length, lastN_length]; omega

theorem byte_of_nibbles (a b : Nat) (ha : a < 16) (hb : b < 16) :
    (UInt8.ofNat (16 * a + b)).toNat / 16 = a ∧ (UInt8.ofNat (16 * a + b)).toNat % 16 = b := by
  rw [UInt8.toNat_ofNat', Nat.mod_eq_of_lt (by omega), Nat.mul_add_div (by decide), Nat.mul_add_mod,
    Nat.div_eq_of_lt hb, Nat.mod_eq_of_lt hb]
  exact ⟨rfl, rfl⟩

/-- on an even number of upper-case hex digits `a2b_hex` succeeds with half as many bytes, and
`hex().upper()` of the result is the string again -/
theorem a2bHex_upperHex : ∀ (n : Nat) (s : PyStr), s.length = 2 * n → IsUpperHex s →
    ∃ body, a2bHex s = .ok body ∧ body.length = n ∧ hexUpper body = s := by
  intro n
  induction n with
  | zero =>
    intro s hs _
    cases List.eq_nil_of_length_eq_zero hs
    exact ⟨[], rfl, rfl, rfl⟩
  | succ n ih =>
    intro s hs hhex
    match s, hs with
    | h :: l :: rest, hs =>
      obtain ⟨hh, hhex⟩ := List.cons_subset.mp hhex
      obtain ⟨hl, hhex⟩ := List.cons_subset.mp hhex
      obtain ⟨a, ha, hva, hda⟩ := upperHex_table h hh
      obtain ⟨b, hb, hvb, hdb⟩ := upperHex_table l hl
      obtain ⟨body, he, hl, hx⟩ := ih rest (by simp only [List.length_cons] at hs; omega) hhex
      refine ⟨UInt8.ofNat (16 * a + b) :: body, ?_, by rw [List.length_cons, hl], ?_⟩
      · simp only [a2bHex, hva, hvb, he, ok_bind, pure_eq_ok]
      · obtain ⟨q, r⟩ := byte_of_nibbles a b ha hb
        simp only [hexUpper, List.flatMap_cons, q, r, hda, hdb] at hx ⊢
        rw [hx]; rfl

theorem a2bHex_length : ∀ (s : PyStr) (b : Bytes), a2bHex s = .ok b → 2 * b.length = s.length
  | [], b, h => by cases h; rfl
  | [_], _, h => nomatch h
  | x :: y :: rest, b, h => by
    simp only [a2bHex] at h
    split at h
    · obtain ⟨r, hr, h⟩ := bind_eq_ok.mp h
      cases h
      have := a2bHex_length rest r hr
      simp only [List.length_cons]; omega
    · cases h

theorem flatMap_pair_length {α β} (f g : α → β) (l : List α) : (l.flatMap fun a => [f a, g a]).length = 2 * l.length := by
  induction l with
  | nil => rfl
  | cons a l ih => simp only [List.flatMap_cons, List.length_append, List.length_cons, List.length_nil, ih]; omega

theorem hexUpper_length (b : Bytes) : (hexUpper b).length = 2 * b.length := flatMap_pair_length _ _ b
theorem hexLower_length (b : Bytes) : (hexLower b).length = 2 * b.length := flatMap_pair_length _ _ b

theorem text_len (c : StrOrBytes) (t : PyStr) (h : c.text = .ok t) : t.length = c.len := by
  cases c with
  | str s => cases h; rfl
  | bytes b =>
    simp only [StrOrBytes.text] at h
    split at h
    · cases h; exact List.length_map _
    · cases h

/-- `s.encode("ascii")` -/
def asciiBytes (s : PyStr) : Bytes := s.map fun c => UInt8.ofNat c.toNat

theorem asciiBytes_length (s : PyStr) : (asciiBytes s).length = s.length := List.length_map _

theorem text_asciiBytes (s : PyStr) (h : ∀ c ∈ s, c.toNat < 128) : (StrOrBytes.bytes (asciiBytes s)).text = .ok s := by
  have back : ∀ c ∈ s, (UInt8.ofNat c.toNat).toNat = c.toNat := fun c hc =>
    UInt8.toNat_ofNat_of_lt' (Nat.lt_trans (h c hc) (by decide))
  have hall : (asciiBytes s).all (· < 128) = true := by
    rw [asciiBytes, List.all_map, List.all_eq_true]
    intro c hc
    simp only [Function.comp, decide_eq_true_eq, UInt8.lt_iff_toNat_lt, back c hc]
    exact h c hc
  -- decoding the byte of a character below 128 gives the character back
  have undo : ∀ c ∈ s, ((fun x : UInt8 => Char.ofNat x.toNat) ∘ fun c : Char => UInt8.ofNat c.toNat) c = id c :=
    fun c hc => by simp only [Function.comp, back c hc, Char.ofNat_toNat, id]
  rw [StrOrBytes.text, if_pos hall, asciiBytes, List.map_map, List.map_congr_left undo, List.map_id]

end Pyemv
