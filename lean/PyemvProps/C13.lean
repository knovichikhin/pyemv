import PyemvProps.C03
import PyemvProps.C05
/-! # C13 — every derived key is a 16-byte odd-parity DES key, equal up to parity bits -/
namespace Pyemv.C13

/-- adjustment: odd parity in every byte, same length -/
theorem adjust_gives_odd_parity (k : Bytes) : (adjustKeyParity k).length = k.length ∧ OddBytes (adjustKeyParity k) :=
  ⟨adjust_length k, adjust_odd k⟩

/-- adjustment changes nothing but the least significant bit of a byte -/
theorem adjust_only_lsb (k : Bytes) (i : Nat) (hi : i < k.length) :
    (adjustKeyParity k)[i]'(by rw [adjust_length]; exact hi) = k[i] ∨
    (adjustKeyParity k)[i]'(by rw [adjust_length]; exact hi) = k[i] ^^^ 1 := by
  simp only [adjustKeyParity_eq_map, List.getElem_map]
  exact adjByte_cases k[i]

theorem adjust_idempotent (k : Bytes) : adjustKeyParity (adjustKeyParity k) = adjustKeyParity k :=
  adjust_fixes_odd _ (adjust_odd k)

/-- adjustment never alters what the key encrypts to: the TDES context, hence every ECB/CBC result, is
identical (PC-1 selects no parity bit), for 8-, 16- and 24-byte keys -/
theorem adjust_preserves_encryption (k iv d : Bytes) :
    tdesKeys (adjustKeyParity k) = tdesKeys k ∧ encryptTdesEcb (adjustKeyParity k) d = encryptTdesEcb k d ∧
    encryptTdesCbc (adjustKeyParity k) iv d = encryptTdesCbc k iv d := by
  unfold encryptTdesEcb encryptTdesCbc
  rw [tdesKeys_adjust]
  exact ⟨rfl, rfl, rfl⟩

/-- whatever `encryptTdesEcb` returns on 16 bytes of input has 16 bytes (8-, 16- or 24-byte key) -/
theorem ecb16_length (key d c : Bytes) (hd : d.length = 16) (h : encryptTdesEcb key d = .ok c) : c.length = 16 := by
  obtain ⟨ks, -, h⟩ := bind_eq_ok.mp h
  cases h; exact ecbUpdate_length (encBlock_length ks) 2 d (by omega)

/-! Each derivation ends in `adjustKeyParity x`; reading a successful run backwards (`bind_eq_ok`, `guard_eq_ok`)
shows that `x` has 16 bytes, and `adjust_key` does the rest. -/

theorem common_sk_key (mk r k : Bytes) (h : deriveCommonSk mk r = .ok k) : OddParityKey k := by
  simp only [deriveCommonSk, throw_bind, guard_eq_ok, bind_eq_ok] at h
  obtain ⟨-, hr, c, he, h⟩ := h
  cases h; exact adjust_key c (ecb16_length mk _ c (by simp [Decidable.of_not_not hr]) he)

theorem visa_sk_key (mk atc k : Bytes) (h : deriveVisaSmSk mk atc = .ok k) : OddParityKey k := by
  simp only [deriveVisaSmSk, throw_bind, guard_eq_ok] at h
  obtain ⟨-, ha, h⟩ := h
  cases h; exact adjust_key _ (by simp [Decidable.of_not_not ha])

theorem keyFromData_key (issMk dataA k : Bytes) (hd : dataA.length = 8) (h : keyFromData issMk dataA = .ok k) :
    OddParityKey k := by
  obtain ⟨c, he, h⟩ := bind_eq_ok.mp h
  cases h; exact adjust_key c (ecb16_length issMk _ c (by simp [hd]) he)

/-- option A: whatever is returned is a 16-byte odd-parity key (any issuer key size the cipher accepts,
any PAN/PSN text the packing accepts) -/
theorem mk_a_key (issMk : Bytes) (pan : StrOrBytes) (psn : Option StrOrBytes) (k : Bytes)
    (h : deriveIccMkA issMk pan psn = .ok k) : OddParityKey k := by
  simp only [deriveIccMkA, bind_eq_ok] at h
  obtain ⟨ps, -, pt, -, dataA, h3, h⟩ := h
  have hl := a2bHex_length _ dataA h3
  rw [zfill_lastN_length] at hl
  exact keyFromData_key issMk dataA k (by omega) h

/-- option B: likewise -/
theorem mk_b_key (issMk : Bytes) (pan : StrOrBytes) (psn : Option StrOrBytes) (k : Bytes)
    (h : deriveIccMkB issMk pan psn = .ok k) : OddParityKey k := by
  unfold deriveIccMkB at h
  split at h
  · exact mk_a_key issMk pan psn k h
  · simp only [bind_eq_ok] at h
    obtain ⟨ps, -, pt, -, hashed, -, dataA, h4, h⟩ := h
    have hl := a2bHex_length _ dataA h4
    rw [C03.code_selection_eq, (C03.decimalise16_sha1Hex hashed).1] at hl
    exact keyFromData_key issMk dataA k (by omega) h

theorem skSpec_length (b : Nat) (mk iv : Bytes) (hmk : mk.length = 16) (hiv : iv.length = 16) (H a : Nat) :
    (Tree.skSpec phi b mk iv xorB H a).length = 16 := by
  simp only [← Tree.skImpl_eq_skSpec, Tree.skImpl, Tree.derive, xorB_length, phi_length,
    (walk_length b mk iv hmk hiv _ H).2, Nat.min_self]

/-- the tree session key: whatever is returned is a 16-byte odd-parity key -/
theorem tree_sk_key (mk atc iv : Bytes) (h b : Nat) (k : Bytes) (hk : deriveEmv2000TreeSk mk atc h b iv = .ok k) :
    OddParityKey k := by
  have hg := hk
  simp only [deriveEmv2000TreeSk, throw_bind, guard_eq_ok, Decidable.not_not] at hg
  obtain ⟨h1, h2, h3, hgate, hb, -⟩ := hg
  cases h with
  | zero => exact absurd (by rw [Nat.pow_zero]; decide) hgate
  | succ H =>
    rw [C05.tree_sk_eq_spec mk atc iv b H h1 h2 h3 (Nat.pos_of_ne_zero hb) (Nat.lt_of_not_le hgate)] at hk
    cases hk
    exact adjust_key _ (skSpec_length b mk iv h1 h3 H _)

/-- the three keys stored on every cryptogram-version object are 16-byte odd-parity keys -/
theorem ctor_keys (p : Cvn.Profile) (k1 k2 k3 : Bytes) (pan : StrOrBytes) (psn : Option StrOrBytes) (card : Cvn.Card)
    (h : Cvn.new p k1 k2 k3 pan psn = .ok card) :
    OddParityKey card.ac ∧ OddParityKey card.smi ∧ OddParityKey card.smc := by
  have hder : ∀ a b c k,
      (match p.mkOpt with | .a => deriveIccMkA | .b => deriveIccMkB) a b c = .ok k → OddParityKey k := by
    cases p.mkOpt
    · exact mk_a_key
    · exact mk_b_key
  simp only [Cvn.new, bind_eq_ok] at h
  obtain ⟨a, ha, i, hi, c, hc, h⟩ := h
  cases h
  exact ⟨hder _ _ _ _ ha, hder _ _ _ _ hi, hder _ _ _ _ hc⟩

example : OddParityKey (adjustKeyParity (List.replicate 16 0xFF)) := adjust_key _ (by simp)
example : adjustKeyParity [0xFF, 0x00, 0xFE] = [0xFE, 0x01, 0xFE] := by decide

end Pyemv.C13
