import PyemvGen.TlvGen
/-! shared by the decoder and the encoder refinement modules -/
namespace Pyemv.TlvRefines
open Pyemv Pyemv.Tlv Pyemv.TlvGen

/-- what the hand-written `scanCont` returns for a loop outcome -/
def toScan : LoopRes → Option Nat × Nat
  | .done m => (some (m + 1), m + 1)
  | .indexErr m => (none, m)
  | .fuel => (none, 0)

end Pyemv.TlvRefines
