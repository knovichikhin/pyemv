import PyemvGen.TlvSourceDec
import PyemvGen.TlvSourceEnc
/-! C10 round trip and C18 re-encoding restated about the translated decoder *and* encoder together. -/
namespace Pyemv.TlvSource
open Pyemv.Tlv Pyemv.TlvSpec Pyemv.Refine

/-- **C10, round trip**: what the translated encoder produces, the translated decoder (any mode, any conversion)
decodes completely, to the tree that mirrors the mapping (tags upper-cased, values as bytes). -/
theorem roundtrip {α} (conv : Bytes → Bytes → α) (fl si : Option Bool) (t : List (PyStr × PyVal)) (b : Bytes)
    (h : TlvGen.encode si t = .ok b) (hlen : si.getD false = false → b.length < 256 ^ 127) :
    ∃ items log, Mirror (si.getD false) t items ∧
      TlvGen.decode conv fl si b = .ok b.length (mapDict conv (absInto (fl.getD false) [] items)) log := by
  obtain ⟨items, hm, hd⟩ := C10.roundtrip (fl.getD false) _ t b ((encode_ok_iff si t b).mp h) hlen
  obtain ⟨log, hg⟩ := decode_of_ok conv fl si b hd
  exact ⟨items, log, hm, hg⟩

/-- **C18, stable re-encoding**: whatever the translated decoder accepts (nested mode, identity conversion), the
translated encoder encodes, the result decodes to the same dictionary again and is no longer than the input. -/
theorem reencode (si : Option Bool) (x : Bytes) (o : Nat) (d : Dict)
    (h : Tlv.decode false (si.getD false) x = .ok o d) :
    ∃ e log, TlvGen.encode si (treeOfDict d) = .ok e ∧
      TlvGen.decode (fun _ v => v) (some false) si e = .ok e.length (mapDict (fun _ v => v) d) log ∧
      e.length ≤ x.length := by
  obtain ⟨e, he, hd, hl⟩ := C18.reencode _ x o d h
  obtain ⟨log, hg⟩ := decode_of_ok (fun _ v => v) (some false) si e hd
  exact ⟨e, log, (encode_ok_iff si _ e).mpr he, hg, hl⟩

end Pyemv.TlvSource
