import PyemvModel.Tools
/-! # `tools.odd_parity`: the 16/8/4 fold with the 0x6996 table is the XOR of the 32 low bits -/
namespace Pyemv

/-- XOR of bits `0 .. k-1` of `n` -/
def par : Nat → Nat → Bool
  | 0, _ => false
  | k+1, n => par k n ^^ n.testBit k

theorem par_xor (k a b : Nat) : par k (a ^^^ b) = (par k a ^^ par k b) := by
  induction k with
  | zero => rfl
  | succ k ih =>
    simp only [par, ih, Nat.testBit_xor, Bool.xor_assoc, Bool.xor_left_comm (par k b)]

theorem par_add (k m n : Nat) : par (k + m) n = (par k n ^^ par m (n >>> k)) := by
  induction m with
  | zero => exact (Bool.xor_false _).symm
  | succ m ih => rw [← Nat.add_assoc, par, par, ih, Nat.testBit_shiftRight, Bool.xor_assoc]

/-- one folding step: the low `k` bits of `n ^^^ (n >>> k)` have the parity of the low `2k` bits of `n` -/
theorem fold_step (k n : Nat) : par k (n ^^^ (n >>> k)) = par (k + k) n := by
  rw [par_xor, par_add]

theorem par_congr (k a b : Nat) (h : ∀ i, i < k → a.testBit i = b.testBit i) : par k a = par k b := by
  induction k with
  | zero => rfl
  | succ k ih => rw [par, par, ih fun i hi => h i (Nat.lt_succ_of_lt hi), h k (Nat.lt_succ_self k)]

theorem par_mod (k n : Nat) : par k (n % 2 ^ k) = par k n :=
  par_congr k _ _ fun i hi => by rw [Nat.testBit_mod_two_pow, decide_eq_true hi, Bool.true_and]

theorem nibble_table : ∀ v, v < 16 → (0x6996 >>> v) &&& 1 = if par 4 v then 1 else 0 := by decide

/-- **odd_parity** returns the XOR of the 32 low bits — for *every* natural number `v`; for
`v < 2^32` these are all its bits. -/
theorem oddParity_eq (v : Nat) : oddParity v = if par 32 v then 1 else 0 := by
  simp only [oddParity, show ∀ x, x &&& 0xF = x % 2 ^ 4 from fun x => Nat.and_two_pow_sub_one_eq_mod x 4]
  rw [nibble_table _ (Nat.mod_lt _ (by decide)), par_mod, fold_step 4, fold_step 8, fold_step 16]

theorem par_zero (m : Nat) : par m 0 = false := by
  induction m with
  | zero => rfl
  | succ m ih => rw [par, ih, Nat.zero_testBit]; rfl

theorem par_bits_above (v : Nat) (k : Nat) (h : v < 2 ^ k) (m : Nat) : par (k + m) v = par k v := by
  rw [par_add, Nat.shiftRight_eq_div_pow, Nat.div_eq_of_lt h, par_zero, Bool.xor_false]

end Pyemv
