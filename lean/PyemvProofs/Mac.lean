import PyemvProofs.Modes
import PyemvProofs.Pad
import PyemvProofs.Except
/-! # `mac_iso9797_3` as written (two live CBC contexts) is ISO 9797-1 Algorithm 3 -/
namespace Pyemv
open Spec

/-! ### the TripleDES context of an 8-byte key is single DES, that of a 16-byte key is the Spec's two-key TDES -/

theorem tdesKeys_8 (k : Bytes) (h : k.length = 8) :
    tdesKeys k = .ok ⟨Des.subkeys (fromBE k), Des.subkeys (fromBE k), Des.subkeys (fromBE k)⟩ := by
  simp [tdesKeys, h]

theorem tdesKeys_16 (k : Bytes) (h : k.length = 16) :
    tdesKeys k = .ok ⟨Des.subkeys (fromBE (k.take 8)), Des.subkeys (fromBE (k.drop 8)), Des.subkeys (fromBE (k.take 8))⟩ := by
  simp [tdesKeys, h]

/-- three times the same schedule: encrypt, decrypt, encrypt is one encryption -/
theorem encBlock_single (s : List Nat) (b : Bytes) : encBlock ⟨s, s, s⟩ b = toBE 8 (Des.crypt s (fromBE b)) := by
  rw [encBlock, encBlockN, Des.crypt_reverse' _ _ (Des.crypt_lt _ _)]

theorem decBlock_single (s : List Nat) (b : Bytes) : decBlock ⟨s, s, s⟩ b = toBE 8 (Des.crypt s.reverse (fromBE b)) := by
  rw [decBlock, decBlockN, Des.crypt_reverse _ _ (Des.crypt_lt _ _)]

theorem encBlock_8 (k : Bytes) :
    encBlock ⟨Des.subkeys (fromBE k), Des.subkeys (fromBE k), Des.subkeys (fromBE k)⟩ = desE k :=
  funext fun b => encBlock_single _ b

theorem decBlock_8 (k : Bytes) :
    decBlock ⟨Des.subkeys (fromBE k), Des.subkeys (fromBE k), Des.subkeys (fromBE k)⟩ = desD k :=
  funext fun b => decBlock_single _ b

theorem desE_length (k b : Bytes) : (desE k b).length = 8 := toBE_length _ _
theorem desD_length (k b : Bytes) : (desD k b).length = 8 := toBE_length _ _
theorem tdesE_length (K b : Bytes) : (tdesE K b).length = 8 := toBE_length _ _
theorem tdesD_length (K b : Bytes) : (tdesD K b).length = 8 := toBE_length _ _
theorem alg3_length (KL KR p : Bytes) : (alg3 KL KR p).length = 8 := toBE_length _ _
attribute [simp] desE_length desD_length tdesE_length tdesD_length alg3_length

theorem alg3_take_8 (KL KR p : Bytes) : (alg3 KL KR p).take 8 = alg3 KL KR p :=
  List.take_of_length_le (Nat.le_of_eq (alg3_length _ _ _))

theorem alg3_take_length (KL KR p : Bytes) {n : Nat} (h : n ≤ 8) : ((alg3 KL KR p).take n).length = n := by
  rw [List.length_take, alg3_length]; omega

theorem encBlock_16 (K : Bytes) :
    encBlock ⟨Des.subkeys (fromBE (K.take 8)), Des.subkeys (fromBE (K.drop 8)), Des.subkeys (fromBE (K.take 8))⟩ = tdesE K := by
  funext b
  simp only [encBlock, encBlockN, tdesE, desE, desD, Des.enc, Des.dec]
  rw [fromBE_toBE 8 _ (Des.crypt_lt _ _), fromBE_toBE 8 _ (Des.crypt_lt _ _)]

theorem decBlock_16 (K : Bytes) :
    decBlock ⟨Des.subkeys (fromBE (K.take 8)), Des.subkeys (fromBE (K.drop 8)), Des.subkeys (fromBE (K.take 8))⟩ = tdesD K := by
  funext b
  simp only [decBlock, decBlockN, tdesD, desE, desD, Des.enc, Des.dec]
  rw [fromBE_toBE 8 _ (Des.crypt_lt _ _), fromBE_toBE 8 _ (Des.crypt_lt _ _)]

/-- mac.py 87-100 on padded data (at least one block): `encryptor1` leaves the CBC-MAC chain value `H` both as its last output block
and as its chaining value; `decryptor2` (IV `H`) turns `H` into `D H ⊕ H`, which `encryptor1`, going on from `H`, turns
into `E (D H)` -/
theorem macCore_eq_alg3 (k1 k2 P : Bytes) (n : Nat) (h1 : k1.length = 8) (h2 : k2.length = 8) (hP : 8 ≤ P.length) :
    macCore k1 k2 P n = .ok ((alg3 k1 k2 P).take n) := by
  obtain ⟨hlast, hHl⟩ := cbcEncUpdate_last (desE_length k1) (zeros 8) P hP
  have hH : (cbcEncUpdate (desE k1) (zeros 8) P).2 = cbcMac (desE k1) (blocks8 P) := cbcEncBlocks_snd _ _
  rw [hH] at hlast hHl
  rw [alg3]
  generalize cbcMac (desE k1) (blocks8 P) = H at hlast hH hHl
  simp only [macCore, tdesKeys_8 k1 h1, tdesKeys_8 k2 h2, encBlock_8, decBlock_8, ok_bind, hlast, hH, hHl, ite_ne_self,
    pure_eq_ok]
  rw [cbcDecUpdate_one _ _ _ hHl, cbcEncUpdate_one _ _ _ (by simp [hHl]), xorB_cancel _ _ (by simp [hHl])]

/-- **mac_iso9797_3 = Algorithm 3** for 8-byte key halves, both padding methods, every output length -/
theorem mac3_eq_alg3 (k1 k2 data : Bytes) (pm : Int) (len : Option Nat)
    (h1 : k1.length = 8) (h2 : k2.length = 8) (hp : pm = 1 ∨ pm = 2) :
    mac3 k1 k2 data pm len =
      .ok ((alg3 k1 k2 (if pm = 1 then Spec.pad1 8 data else Spec.pad2 8 data)).take (len.getD 8)) := by
  rcases hp with rfl | rfl
  · have := Spec.pad1_length_multiple 8 (by decide) data
    simp only [mac3, padSelect, pad1_eq_spec 8 (by decide) data]
    exact macCore_eq_alg3 k1 k2 _ _ h1 h2 (by omega)
  · have := Spec.pad2_length_multiple 8 (by decide) data
    simp only [mac3, padSelect, pad2_eq_spec 8 (by decide) data]
    exact macCore_eq_alg3 k1 k2 _ _ h1 h2 (by omega)

/-- the form in which every caller uses the MAC: the two halves of a 16-byte key -/
theorem mac3_key16 (sk data : Bytes) (pm : Int) (len : Option Nat) (hsk : sk.length = 16) (hp : pm = 1 ∨ pm = 2) :
    mac3 (sk.take 8) (lastN 8 sk) data pm len =
      .ok ((alg3 (sk.take 8) (sk.drop 8) (if pm = 1 then Spec.pad1 8 data else Spec.pad2 8 data)).take (len.getD 8)) := by
  rw [lastN, hsk]
  exact mac3_eq_alg3 _ _ _ _ _ (by simp [hsk]) (by simp [hsk]) hp

theorem mac3_key16_pad2 (sk data : Bytes) (len : Option Nat) (hsk : sk.length = 16) :
    mac3 (sk.take 8) (lastN 8 sk) data 2 len = .ok ((alg3 (sk.take 8) (sk.drop 8) (Spec.pad2 8 data)).take (len.getD 8)) :=
  mac3_key16 sk data 2 len hsk (Or.inr rfl)

end Pyemv
