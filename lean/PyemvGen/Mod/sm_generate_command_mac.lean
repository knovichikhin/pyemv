import PyemvGen.Mod.Common
import PyemvProps.C06
import PyemvGen.Mod.mac_mac3
namespace Pyemv.ModRefines
open Pyemv.Gen

theorem sm_generate_command_mac (sk c : Bytes) (l : Option Nat) : Gen.sm.generate_command_mac sk c l = generateCommandMac sk c l := by
  unfold Gen.sm.generate_command_mac generateCommandMac
  simp only [mac_mac3, throw_eq, pure_eq_ok, ok_bind, error_bind, bind_ok, except_match_eta]
  same_guards

/-- **C06 about the translated source** -/
theorem source_generate_command_mac (sk cmd : Bytes) (len : Option Nat) (hsk : sk.length = 16) :
    Gen.sm.generate_command_mac sk cmd len =
      .ok ((Spec.alg3 (sk.take 8) (sk.drop 8) (Spec.pad2 8 cmd)).take (len.getD 8)) := by
  rw [sm_generate_command_mac]; exact C06.command_mac_eq_spec sk cmd len hsk

end Pyemv.ModRefines
