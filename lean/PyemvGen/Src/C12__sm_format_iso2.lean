import PyemvGen.Mod.sm_format_iso2
import PyemvProps.C12
/-! Generated by lean/mk_source.py (committed). C12 restated about the definitions translated from the
repository's source on this run (`Pyemv.Gen.*`), by the refinement theorem(s) sm_format_iso2. -/
namespace Pyemv.C12.Source
open Spec

theorem iso2_eq_spec (p : PyStr) (hp : ValidPin p) :
    ∃ body, Gen.sm.format_iso9564_2_pin_block (.str p) = .ok (UInt8.ofNat (0x20 + p.length) :: body) ∧ body.length = 7 ∧
      hexUpper body = p ++ List.replicate (14 - p.length) 'F' := by
  simp only [ModRefines.sm_format_iso2]
  exact _root_.Pyemv.C12.iso2_eq_spec p hp

theorem iso2_recovers (p : PyStr) (hp : ValidPin p) :
    ∃ blk, Gen.sm.format_iso9564_2_pin_block (.str p) = .ok blk ∧ blk.length = 8 ∧
      (blk.headD 0).toNat = 0x20 + p.length ∧ (hexUpper blk.tail).take p.length = p ∧
      (hexUpper blk.tail).drop p.length = List.replicate (14 - p.length) 'F' := by
  simp only [ModRefines.sm_format_iso2]
  exact _root_.Pyemv.C12.iso2_recovers p hp

end Pyemv.C12.Source
