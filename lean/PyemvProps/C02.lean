import PyemvProofs.Tdes
/-! # C02 — ARPC methods 1 and 2 follow EMV Book 2 §8.2 -/
namespace Pyemv.C02
open Spec

/-- Method 1: the Triple-DES encryption of the ARQC XORed with the response code left-aligned in eight
bytes (response code, then six zero bytes). -/
theorem arpc1_eq_spec (sk arqc rc : Bytes) (hsk : sk.length = 16) (hq : arqc.length = 8) (hrc : rc.length = 2) :
    generateArpc1 sk arqc rc = .ok (tdesE sk (xorB arqc (rc ++ zeros 6))) := by
  simp only [generateArpc1, hsk, hq, hrc, ite_ne_self]
  rw [xor_eq_xorB _ _ (by simp [hrc, hq]), encryptTdesCbc_16 sk _ _ hsk (zeros_length 8),
    cbc_one_block_zero_iv _ _ (by simp [hrc, hq]), xorB_comm]

/-- Method 2: the leftmost 4 bytes of the Algorithm 3 MAC, with method 2 padding, over
ARQC ‖ CSU ‖ proprietary data (absent means empty). -/
theorem arpc2_eq_spec (sk arqc csu : Bytes) (pad : Option Bytes) (hsk : sk.length = 16) (hq : arqc.length = 8)
    (hc : csu.length = 4) (hp : (pad.getD []).length ≤ 8) :
    generateArpc2 sk arqc csu pad =
      .ok ((alg3 (sk.take 8) (sk.drop 8) (Spec.pad2 8 (arqc ++ csu ++ pad.getD []))).take 4) := by
  simp only [generateArpc2, hsk, hq, hc, Nat.not_lt.mpr hp, ite_ne_self]
  exact mac3_key16_pad2 sk _ (some 4) hsk

theorem arpc2_none_eq_empty (sk arqc csu : Bytes) : generateArpc2 sk arqc csu none = generateArpc2 sk arqc csu (some []) := rfl

/-- the response is 8 bytes (method 1) / 4 bytes (method 2) -/
theorem arpc_lengths (sk arqc rc : Bytes) : (tdesE sk (xorB arqc (rc ++ zeros 6))).length = 8 ∧
    ∀ p, ((alg3 (sk.take 8) (sk.drop 8) p).take 4).length = 4 := by
  exact ⟨tdesE_length _ _, fun p => alg3_take_length _ _ p (by decide)⟩

example : (List.replicate 16 (7 : UInt8)).length = 16 ∧ ((some [1, 2, 3] : Option Bytes).getD []).length ≤ 8 := by decide

end Pyemv.C02
