import PyemvGen.Mod.Common
import PyemvProps.C07
import PyemvGen.Mod.mac_pad2
import PyemvGen.Mod.tools_ecb
import PyemvGen.Mod.tools_cbc
namespace Pyemv.ModRefines
open Pyemv.Gen

theorem sm_encrypt_command_data (sk d : Bytes) (t : EncryptionType) :
    Gen.sm.encrypt_command_data sk d t = encryptCommandData sk d t := by
  unfold Gen.sm.encrypt_command_data encryptCommandData
  -- `ite_bind`: for rewrites that choose the data to encipher (or a "needs padding" flag) first and encipher once;
  -- the tests `> 0`, `!= 0`, `== 0` of the remainder are brought to `= 0`
  simp only [mac_pad2, tools_ecb, tools_cbc, pyMod_bind, bind_assoc, ite_bind, throw_eq, pure_eq_ok, ok_bind, error_bind,
    bind_ok, except_match_eta, gt_iff_lt, Nat.pos_iff_ne_zero, ne_eq, ite_not, decide_eq_true_eq, decide_not,
    Bool.not_eq_true', decide_eq_false_iff_not]
  cases t
  all_goals same_guards

/-- **C07 about the translated source**: each scheme enciphers its documented frame -/
theorem source_encrypt_command_data (sk d : Bytes) (hsk : sk.length = 16) :
    (d.length ≤ 255 → Gen.sm.encrypt_command_data sk d .visa = .ok (ecbUpdate (Spec.tdesE sk) (C07.visaFrame d))) ∧
    Gen.sm.encrypt_command_data sk d .emv = .ok (cbcEncUpdate (Spec.tdesE sk) (zeros 8) (C07.emvFrame d)).1 ∧
    Gen.sm.encrypt_command_data sk d .mastercard = .ok (cbcEncUpdate (Spec.tdesE sk) (zeros 8) (C07.mcFrame d)).1 := by
  simp only [sm_encrypt_command_data]
  exact ⟨fun hd => C07.enc_visa_eq sk d hsk hd, C07.enc_emv_eq sk d hsk, C07.enc_mc_eq sk d hsk⟩

end Pyemv.ModRefines
