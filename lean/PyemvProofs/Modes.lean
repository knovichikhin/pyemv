import PyemvProofs.Bytes
import PyemvProofs.DesProofs
/-!
# Cipher modes on byte strings

`blocks8`, ECB and CBC `update` over whole blocks, their inverses, and the block cipher laws of the
concrete (OpenSSL-matching) DES lifted to 8-byte blocks.
-/
namespace Pyemv

theorem encBlockN_lt (ks : Ks) (x : Nat) : encBlockN ks x < 2 ^ 64 := Des.crypt_lt _ _
theorem decBlockN_lt (ks : Ks) (x : Nat) : decBlockN ks x < 2 ^ 64 := Des.crypt_lt _ _

theorem decBlockN_encBlockN (ks : Ks) (x : Nat) (hx : x < 2 ^ 64) : decBlockN ks (encBlockN ks x) = x := by
  unfold decBlockN encBlockN
  rw [Des.crypt_reverse _ _ (Des.crypt_lt _ _), Des.crypt_reverse' _ _ (Des.crypt_lt _ _), Des.crypt_reverse _ x hx]

theorem encBlockN_decBlockN (ks : Ks) (x : Nat) (hx : x < 2 ^ 64) : encBlockN ks (decBlockN ks x) = x := by
  unfold decBlockN encBlockN
  rw [Des.crypt_reverse' _ _ (Des.crypt_lt _ _), Des.crypt_reverse _ _ (Des.crypt_lt _ _), Des.crypt_reverse' _ x hx]

theorem encBlock_length (ks : Ks) (b : Bytes) : (encBlock ks b).length = 8 := toBE_length _ _
theorem decBlock_length (ks : Ks) (b : Bytes) : (decBlock ks b).length = 8 := toBE_length _ _
attribute [simp] encBlock_length decBlock_length

/-- two maps on 64-bit numbers, one undoing the other, read on 8-byte blocks (`encBlock`, `decBlock`, `Spec.desE`,
`Spec.desD` all have this form) -/
theorem block_cancel {φ ψ : Nat → Nat} (hφ : ∀ x, φ x < 2 ^ 64) (h : ∀ x, x < 2 ^ 64 → ψ (φ x) = x)
    (b : Bytes) (hb : b.length = 8) : toBE 8 (ψ (fromBE (toBE 8 (φ (fromBE b))))) = b := by
  rw [fromBE_toBE 8 _ (hφ _), h _ (fromBE_lt_of_length hb), ← hb, toBE_fromBE]

theorem decBlock_encBlock (ks : Ks) (b : Bytes) (hb : b.length = 8) : decBlock ks (encBlock ks b) = b :=
  block_cancel (encBlockN_lt ks) (decBlockN_encBlockN ks) b hb

theorem encBlock_decBlock (ks : Ks) (b : Bytes) (hb : b.length = 8) : encBlock ks (decBlock ks b) = b :=
  block_cancel (decBlockN_lt ks) (encBlockN_decBlockN ks) b hb

theorem xorB_cancel (a b : Bytes) (h : a.length = b.length) : xorB (xorB a b) b = a := by
  induction a generalizing b with
  | nil => simp [xorB]
  | cons x xs ih =>
    cases b with
    | nil => simp at h
    | cons y ys =>
      simp only [xorB, List.zipWith_cons_cons] at ih ⊢
      rw [ih ys (by simpa using h), UInt8.xor_assoc, UInt8.xor_self, UInt8.xor_zero]

theorem xorB_comm (a b : Bytes) : xorB a b = xorB b a := List.zipWith_comm_of_comm UInt8.xor_comm

theorem zeros_append_xorB (n : Nat) (a k : Bytes) : xorB (zeros n ++ a) k = k.take n ++ xorB a (k.drop n) := by
  induction n generalizing k with
  | zero => rfl
  | succ n ih =>
    cases k with
    | nil => simp [xorB]
    | cons x k => simpa [xorB, zeros, List.replicate_succ] using ih k

theorem xorB_replicate (y : Bytes) (c : UInt8) : xorB y (List.replicate y.length c) = y.map (· ^^^ c) := by
  induction y with
  | nil => rfl
  | cons b bs ih =>
    simp only [xorB, List.length_cons, List.replicate_succ, List.zipWith_cons_cons, List.map_cons] at ih ⊢
    rw [ih]

theorem xorB_zeros (b : Bytes) (n : Nat) (h : b.length = n) : xorB b (zeros n) = b := by
  subst h; rw [zeros, xorB_replicate]; simp

theorem xorB_self_cancel (a b : Bytes) (h : a.length = b.length) : xorB (xorB a b) a = b := by
  rw [xorB_comm a b, xorB_cancel b a h.symm]

theorem blocks8_append (b rest : Bytes) (hb : b.length = 8) : blocks8 (b ++ rest) = b :: blocks8 rest := by
  rw [blocks8, dif_neg (by simp [hb]), List.take_left' hb, List.drop_left' hb]

theorem blocks8_short (d : Bytes) (h : d.length < 8) : blocks8 d = [] := by rw [blocks8, dif_pos h]

theorem blocks8_nil : blocks8 [] = [] := blocks8_short [] (by decide)

theorem blocks8_single (b : Bytes) (hb : b.length = 8) : blocks8 b = [b] := by
  have := blocks8_append b [] hb
  rwa [List.append_nil, blocks8_nil] at this

theorem blocks8_length (d : Bytes) : (blocks8 d).length = d.length / 8 := by
  fun_induction blocks8 d with
  | case1 d h => exact (Nat.div_eq_of_lt h).symm
  | case2 d h ih =>
    rw [List.length_cons, ih, List.length_drop, Nat.div_eq_sub_div (by decide) (Nat.le_of_not_lt h)]

theorem blocks8_mem_length (d : Bytes) : ∀ b ∈ blocks8 d, b.length = 8 := by
  fun_induction blocks8 d with
  | case1 d h => simp
  | case2 d h ih => simp; exact ⟨by omega, ih⟩

theorem flatten_blocks8 (d : Bytes) (hd : d.length % 8 = 0) : (blocks8 d).flatten = d := by
  fun_induction blocks8 d with
  | case1 d h => exact (List.eq_nil_of_length_eq_zero (by rwa [Nat.mod_eq_of_lt h] at hd)).symm
  | case2 d h ih =>
    rw [List.flatten_cons, ih (by rw [List.length_drop, ← Nat.mod_eq_sub_mod (Nat.le_of_not_lt h)]; exact hd),
      List.take_append_drop]

theorem blocks8_flatten (bs : List Bytes) (h : ∀ b ∈ bs, b.length = 8) : blocks8 bs.flatten = bs := by
  induction bs with
  | nil => exact blocks8_nil
  | cons b rest ih =>
    rw [List.flatten_cons, blocks8_append b _ (h b (by simp)), ih (fun x hx => h x (by simp [hx]))]

theorem flatten_length_of_blocks (bs : List Bytes) (h : ∀ b ∈ bs, b.length = 8) : bs.flatten.length = 8 * bs.length := by
  rw [List.length_flatten, List.map_eq_replicate_iff.mpr h, List.sum_replicate_nat, Nat.mul_comm]

variable {f g : Bytes → Bytes}

theorem ecbUpdate_length (hfl : ∀ b, (f b).length = 8) (n : Nat) (d : Bytes) (hd : d.length = 8 * n) :
    (ecbUpdate f d).length = 8 * n := by
  rw [ecbUpdate, flatten_length_of_blocks _ (by simp [hfl]), List.length_map, blocks8_length, hd,
    Nat.mul_div_cancel_left _ (by decide)]

/-- **ECB decryption inverts ECB encryption** on whole-block input -/
theorem ecbDec_ecb (hfg : ∀ b, b.length = 8 → g (f b) = b) (hfl : ∀ b, (f b).length = 8)
    (n : Nat) (d : Bytes) (hd : d.length = 8 * n) : ecbUpdate g (ecbUpdate f d) = d := by
  unfold ecbUpdate
  rw [blocks8_flatten _ (by simp [hfl]), List.map_map,
    List.map_congr_left (f := g ∘ f) (g := id) fun b hb => hfg b (blocks8_mem_length d b hb), List.map_id,
    flatten_blocks8 d (by omega)]

theorem cbcEncBlocks_all8 (hfl : ∀ b, (f b).length = 8) (iv : Bytes) (bs : List Bytes) :
    ∀ c ∈ (cbcEncBlocks f iv bs).1, c.length = 8 := by
  induction bs generalizing iv with
  | nil => simp [cbcEncBlocks]
  | cons b rest ih => simpa [cbcEncBlocks, hfl] using ih _

theorem cbcEncBlocks_length (iv : Bytes) (bs : List Bytes) : (cbcEncBlocks f iv bs).1.length = bs.length := by
  induction bs generalizing iv with
  | nil => rfl
  | cons b rest ih => simp [cbcEncBlocks, ih]

theorem cbcDecBlocks_cbcEncBlocks (hfg : ∀ b, b.length = 8 → g (f b) = b) (hfl : ∀ b, (f b).length = 8)
    (iv : Bytes) (bs : List Bytes) (hiv : iv.length = 8) (hbs : ∀ b ∈ bs, b.length = 8) :
    (cbcDecBlocks g iv (cbcEncBlocks f iv bs).1).1 = bs := by
  induction bs generalizing iv with
  | nil => rfl
  | cons b rest ih =>
    have hb : b.length = 8 := hbs b (by simp)
    simp only [cbcEncBlocks, cbcDecBlocks]
    rw [hfg _ (by simp [hb, hiv]), xorB_cancel b iv (by omega), ih _ (hfl _) fun x hx => hbs x (by simp [hx])]

/-- **CBC decryption inverts CBC encryption** on whole-block input, for any 8-byte IV -/
theorem cbcDec_cbcEnc (hfg : ∀ b, b.length = 8 → g (f b) = b) (hfl : ∀ b, (f b).length = 8)
    (n : Nat) (iv d : Bytes) (hiv : iv.length = 8) (hd : d.length = 8 * n) :
    (cbcDecUpdate g iv (cbcEncUpdate f iv d).1).1 = d := by
  simp only [cbcDecUpdate, cbcEncUpdate]
  rw [blocks8_flatten _ (cbcEncBlocks_all8 hfl iv _),
    cbcDecBlocks_cbcEncBlocks hfg hfl iv _ hiv (blocks8_mem_length d), flatten_blocks8 d (by omega)]

theorem cbcEncUpdate_length (hfl : ∀ b, (f b).length = 8) (n : Nat) (iv d : Bytes) (hd : d.length = 8 * n) :
    (cbcEncUpdate f iv d).1.length = 8 * n := by
  rw [cbcEncUpdate, flatten_length_of_blocks _ (cbcEncBlocks_all8 hfl iv _), cbcEncBlocks_length, blocks8_length, hd,
    Nat.mul_div_cancel_left _ (by decide)]

/-- the chaining value after an update is the CBC-MAC fold over the blocks -/
theorem cbcEncBlocks_snd (iv : Bytes) (bs : List Bytes) :
    (cbcEncBlocks f iv bs).2 = bs.foldl (fun h b => f (xorB h b)) iv := by
  induction bs generalizing iv with
  | nil => rfl
  | cons b rest ih => rw [List.foldl_cons, xorB_comm]; exact ih _

/-- the chaining value after a non-empty update is the last block that was output -/
theorem cbcEncBlocks_getLast (iv : Bytes) (bs : List Bytes) (hne : bs ≠ []) :
    (cbcEncBlocks f iv bs).1.getLast? = some (cbcEncBlocks f iv bs).2 := by
  induction bs generalizing iv with
  | nil => exact absurd rfl hne
  | cons b rest ih =>
    cases rest with
    | nil => rfl
    | cons b' rest' => simpa [cbcEncBlocks] using ih (f (xorB b iv)) (List.cons_ne_nil _ _)

theorem cbcEncUpdate_one (f : Bytes → Bytes) (iv x : Bytes) (hx : x.length = 8) :
    cbcEncUpdate f iv x = (f (xorB x iv), f (xorB x iv)) := by
  simp [cbcEncUpdate, blocks8_single x hx, cbcEncBlocks]

theorem cbcDecUpdate_one (g : Bytes → Bytes) (iv c : Bytes) (hc : c.length = 8) :
    (cbcDecUpdate g iv c).1 = xorB (g c) iv := by
  simp [cbcDecUpdate, blocks8_single c hc, cbcDecBlocks]

theorem lastN_append_right {α} (x c : List α) (n : Nat) (hc : c.length = n) : lastN n (x ++ c) = c := by
  rw [lastN, List.length_append, hc, Nat.add_sub_cancel, List.drop_left]

theorem cbcEncUpdate_last (hfl : ∀ b, (f b).length = 8) (iv d : Bytes) (hd : 8 ≤ d.length) :
    lastN 8 (cbcEncUpdate f iv d).1 = (cbcEncUpdate f iv d).2 ∧ (cbcEncUpdate f iv d).2.length = 8 := by
  have hne : blocks8 d ≠ [] := List.ne_nil_of_length_pos (by rw [blocks8_length]; omega)
  have hl := cbcEncBlocks_getLast (f := f) iv _ hne
  obtain ⟨init, hi⟩ := List.getLast?_eq_some_iff.mp hl
  have h8 := cbcEncBlocks_all8 hfl iv (blocks8 d) _ (List.mem_of_getLast? hl)
  refine ⟨?_, h8⟩
  simp only [cbcEncUpdate]
  rw [hi, List.flatten_append, List.flatten_singleton, lastN_append_right _ _ 8 h8]

theorem tdes_ecb_roundtrip (ks : Ks) (n : Nat) (d : Bytes) (hd : d.length = 8 * n) :
    ecbUpdate (decBlock ks) (ecbUpdate (encBlock ks) d) = d :=
  ecbDec_ecb (decBlock_encBlock ks) (encBlock_length ks) n d hd

theorem tdes_cbc_roundtrip (ks : Ks) (n : Nat) (iv d : Bytes) (hiv : iv.length = 8) (hd : d.length = 8 * n) :
    (cbcDecUpdate (decBlock ks) iv (cbcEncUpdate (encBlock ks) iv d).1).1 = d :=
  cbcDec_cbcEnc (decBlock_encBlock ks) (encBlock_length ks) n iv d hiv hd

end Pyemv
